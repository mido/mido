import MidoModel.Tracks
/-!
  C12 — merge_tracks keeps every event at its absolute time (all read off `toAbs_mergeTracks`).
-/
namespace Mido
open List

def notEot (e : TEv) : Bool := !e.eot

theorem fixAcc_cons_eot {e : TEv} (h : e.eot = true) (acc : Nat) (es : List TEv) :
    fixAcc acc (e :: es) = fixAcc (acc + e.time) es := by simp [fixAcc, h]

/-- the code's `if accum:` test makes no difference: adding an accumulator of 0 changes nothing -/
theorem fixAcc_cons_keep {e : TEv} (h : e.eot = false) (acc : Nat) (es : List TEv) :
    fixAcc acc (e :: es) = ({ e with time := acc + e.time } :: (fixAcc 0 es).1, (fixAcc 0 es).2) := by
  cases e; cases acc <;> simp_all [fixAcc]

theorem absFrom_append (s : Nat) (a b : List TEv) :
    absFrom s (a ++ b) = absFrom s a ++ absFrom (totalFrom s a) b := by
  induction a generalizing s with
  | nil => rfl
  | cons x xs ih => simp [absFrom, totalFrom, ih]

theorem absFrom_fixAcc (es : List TEv) : ∀ s acc,
    absFrom s (fixAcc acc es).1 = (absFrom (s + acc) es).filter notEot ∧
    totalFrom s (fixAcc acc es).1 + (fixAcc acc es).2 = totalFrom (s + acc) es ∧
    ∀ e ∈ (fixAcc acc es).1, e.eot = false := by
  induction es with
  | nil => intro s acc; simp [fixAcc, absFrom, totalFrom]
  | cons e es ih =>
    intro s acc
    cases he : e.eot
    · have := ih (s + (acc + e.time)) 0
      simpa [fixAcc_cons_keep he, absFrom, totalFrom, notEot, he, Nat.add_assoc] using this
    · have := ih s (acc + e.time)
      simpa [fixAcc_cons_eot he, absFrom, totalFrom, notEot, he, Nat.add_assoc] using this

theorem toAbs_fixEOT (es : List TEv) :
    toAbs (fixEOT es) = (toAbs es).filter notEot ++ [⟨eotId, true, total es⟩] := by
  have h := absFrom_fixAcc es 0 0
  simp [toAbs, fixEOT, total, absFrom_append, absFrom, h.1, ← h.2.1]

theorem total_fixEOT (es : List TEv) : total (fixEOT es) = total es := by
  simpa [total, fixEOT, totalFrom] using (absFrom_fixAcc es 0 0).2.1

/-- times do not decrease, starting from `now` -/
def chainLe : Nat → List TEv → Prop
  | _, [] => True
  | now, e :: es => now ≤ e.time ∧ chainLe e.time es

theorem chainLe_of_pairwise {es : List TEv} : ∀ now,
    (∀ e ∈ es, now ≤ e.time) → es.Pairwise (fun a b => a.time ≤ b.time) → chainLe now es := by
  induction es with
  | nil => intros; trivial
  | cons e es ih =>
    intro now h0 hp
    rw [pairwise_cons] at hp
    exact ⟨h0 e mem_cons_self, ih e.time hp.1 hp.2⟩

theorem absFrom_relFrom {S : List TEv} : ∀ now, chainLe now S → absFrom now (relFrom now S) = S := by
  induction S with
  | nil => intros; rfl
  | cons x xs ih =>
    intro now hc
    simp [relFrom, absFrom, Nat.add_sub_cancel' hc.1, ih x.time hc.2]

theorem leTime_trans : ∀ a b c : TEv, leTime a b = true → leTime b c = true → leTime a c = true := by
  intro a b c h1 h2; simp [leTime] at *; omega
theorem leTime_total : ∀ a b : TEv, (leTime a b || leTime b a) = true := by
  intro a b; simp [leTime]; omega

/-- the sorted list of all events at their absolute ticks -/
def sortedAll (ts : List (List TEv)) : List TEv := (ts.flatMap toAbs).mergeSort leTime

theorem mergeTracks_eq (ts : List (List TEv)) : mergeTracks ts = fixEOT (toRel (sortedAll ts)) := rfl

theorem sortedAll_pairwise (ts : List (List TEv)) :
    (sortedAll ts).Pairwise (fun a b => a.time ≤ b.time) :=
  (pairwise_mergeSort leTime_trans leTime_total _).imp (by simp [leTime])

theorem chainLe_sortedAll (ts : List (List TEv)) : chainLe 0 (sortedAll ts) :=
  chainLe_of_pairwise 0 (fun _ _ => Nat.zero_le _) (sortedAll_pairwise ts)

theorem toAbs_toRel_sortedAll (ts : List (List TEv)) : toAbs (toRel (sortedAll ts)) = sortedAll ts :=
  absFrom_relFrom 0 (chainLe_sortedAll ts)

theorem toAbs_mergeTracks (ts : List (List TEv)) :
    toAbs (mergeTracks ts) =
      (sortedAll ts).filter notEot ++ [⟨eotId, true, total (toRel (sortedAll ts))⟩] := by
  rw [mergeTracks_eq, toAbs_fixEOT, toAbs_toRel_sortedAll]

theorem merged_abs (ts : List (List TEv)) :
    (toAbs (mergeTracks ts)).filter notEot = (sortedAll ts).filter notEot := by
  simp [toAbs_mergeTracks, show ∀ t, notEot ⟨eotId, true, t⟩ = false from fun _ => rfl]

/-- the non-end_of_track events of all inputs at their absolute ticks, in track order then
    in-track order -/
def A (ts : List (List TEv)) : List TEv := (ts.flatMap toAbs).filter notEot
/-- the non-end_of_track events of the merged track at their absolute ticks -/
def R (ts : List (List TEv)) : List TEv := (toAbs (mergeTracks ts)).filter notEot

/-- exactly the non-end_of_track messages of all inputs, each at the same absolute tick -/
theorem C12_perm (ts : List (List TEv)) : (R ts).Perm (A ts) := by
  rw [R, merged_abs]
  exact (mergeSort_perm _ _).filter _

/-- ordered by absolute time -/
theorem C12_sorted (ts : List (List TEv)) : (R ts).Pairwise (fun a b => a.time ≤ b.time) := by
  rw [R, merged_abs]
  exact (sortedAll_pairwise ts).sublist filter_sublist

/-- ties are kept in track order and then in-track order (stability): two events that appear in
    that order in the inputs and are not out of time order appear in that order in the result -/
theorem C12_stable (ts : List (List TEv)) (a b : TEv) (h : [a, b] <+ A ts) (hab : a.time ≤ b.time) :
    [a, b] <+ R ts := by
  rw [R, merged_abs]
  have ha : notEot a = true := (mem_filter.mp (h.subset (by simp))).2
  have hb : notEot b = true := (mem_filter.mp (h.subset (by simp))).2
  have := (pair_sublist_mergeSort leTime_trans leTime_total (by simpa [leTime] using hab)
    (h.trans filter_sublist)).filter notEot
  simpa [ha, hb, sortedAll] using this

/-- the result ends with exactly one end_of_track -/
theorem C12_one_eot (ts : List (List TEv)) :
    ∃ init d, mergeTracks ts = init ++ [⟨eotId, true, d⟩] ∧ ∀ e ∈ init, e.eot = false :=
  ⟨_, _, rfl, (absFrom_fixAcc _ 0 _).2.2⟩

def maxTime (m : Nat) (l : List TEv) : Nat := l.foldl (fun m e => max m e.time) m

theorem maxTime_absFrom (es : List TEv) :
    ∀ s m, maxTime (max m s) (absFrom s es) = max m (totalFrom s es) := by
  induction es with
  | nil => intros; rfl
  | cons x xs ih =>
    intro s m
    simp only [absFrom, totalFrom, maxTime, foldl_cons]
    rw [Nat.max_assoc, Nat.max_eq_right (Nat.le_add_right s x.time)]
    exact ih (s + x.time) m

theorem maxTime_flatMap (ts : List (List TEv)) : ∀ m,
    maxTime m (ts.flatMap toAbs) = (ts.map total).foldl max m := by
  induction ts with
  | nil => intro m; rfl
  | cons tr rest ih =>
    intro m
    have := maxTime_absFrom tr 0 m
    simp only [Nat.max_zero] at this
    simp only [maxTime, flatMap_cons, foldl_append, map_cons, foldl_cons] at *
    rw [toAbs, this, ih]; rfl

/-- the total duration of the merged track equals that of the longest input track (trailing
    end_of_track deltas included) -/
theorem C12_duration (ts : List (List TEv)) : total (mergeTracks ts) = (ts.map total).foldl max 0 := by
  -- a total is the largest absolute time; sorting permutes the absolute times, and `max` does not care
  have h1 : total (toRel (sortedAll ts)) = maxTime 0 (sortedAll ts) := by
    have := maxTime_absFrom (toRel (sortedAll ts)) 0 0
    rwa [← toAbs, toAbs_toRel_sortedAll, Nat.max_self, Nat.zero_max, eq_comm] at this
  have h2 : maxTime 0 (sortedAll ts) = maxTime 0 (ts.flatMap toAbs) :=
    (mergeSort_perm _ _).foldl_eq' (fun x _ y _ z => Nat.max_right_comm z x.time y.time) _
  rw [mergeTracks_eq, total_fixEOT, h1, h2, maxTime_flatMap]

/-- no tracks, or only empty ones, give a lone end_of_track at time 0 -/
theorem C12_empty : mergeTracks [] = [⟨eotId, true, 0⟩] ∧ mergeTracks [[]] = [⟨eotId, true, 0⟩] := by
  constructor <;> simp [mergeTracks, toAbs, absFrom, toRel, relFrom, fixEOT, fixAcc]

/-! Non-vacuity: a tie across tracks and an end_of_track in the middle (test of the model). -/
example : fixEOT (toRel [⟨1, false, 5⟩, ⟨2, true, 8⟩, ⟨3, false, 8⟩, ⟨4, false, 8⟩, ⟨5, true, 18⟩])
    = [⟨1, false, 5⟩, ⟨3, false, 3⟩, ⟨4, false, 0⟩, ⟨0, true, 10⟩] := by decide

end Mido
