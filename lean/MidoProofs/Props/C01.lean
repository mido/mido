import MidoProofs.Lemmas.Codec
import MidoProofs.Lemmas.Hex
/-!
  C01 — message byte codec round-trips every valid message.
-/
namespace Mido

/-- Independent arithmetic rendering of the MIDI 1.0 layout (`+ * / %` only). -/
def Midi10.bytes : Msg → List Nat
  | .chan3 k ch d1 d2 => [k.base + ch, d1, d2]
  | .chan2 k ch d1 => [k.base + ch, d1]
  | .pitchwheel ch p => [0xe0 + ch, (p + 8192).toNat % 128, (p + 8192).toNat / 128]
  | .sysex d => 0xf0 :: (d ++ [0xf7])
  | .quarter_frame ft fv => [0xf1, 16 * ft + fv]
  | .songpos p => [0xf2, p % 128, p / 128]
  | .song_select s => [0xf3, s]
  | .sys1 k => [k.status]

/-- The bit layout of the standard: refinement of `encode` to the arithmetic spec. -/
theorem C01_layout (m : Msg) (h : m.Valid) : encode m = Midi10.bytes m := by
  cases m <;> simp only [Msg.Valid, Msg.valid, Bool.and_eq_true, decide_eq_true_eq] at h
  case chan3 k ch _ _ | chan2 k ch _ =>
    have := status_or k.base ch k.base_range.1 (by omega)
    simp [encode, Midi10.bytes, this.1]
  case pitchwheel ch p =>
    have := status_or 0xe0 ch rfl (by omega)
    simp only [encode, Midi10.bytes, this.1, and127, shr7, Int.sub_neg]
  case quarter_frame ft fv =>
    simp only [encode, Midi10.bytes, shl4, or16 ft fv (by omega)]
    congr 2; omega
  case sysex d | songpos p => simp [encode, Midi10.bytes, and127, shr7]
  case song_select s | sys1 k => rfl

/-- Decoding the encoding gives back the message (all 18 types, all valid values, sysex of
    any length). -/
theorem C01_decode_encode (m : Msg) (h : m.Valid) : decodeNats (encode m) = .ok m := decode_encode m h

/-- The encoding is one well-formed MIDI 1.0 message. -/
theorem C01_wellformed (m : Msg) (h : m.Valid) :
    ∃ s ds, encode m = s :: ds ∧ s = m.status ∧ 0x80 ≤ s ∧ s ≤ 0xFF ∧
      ((∀ p, m ≠ .sysex p) → ∀ d ∈ ds, d < 0x80) ∧
      (∀ p, m = .sysex p → ds = p ++ [0xF7] ∧ ∀ d ∈ p, d < 0x80) := by
  by_cases hs : ∃ d, m = .sysex d
  · obtain ⟨d, rfl⟩ := hs
    refine ⟨_, _, rfl, rfl, by decide, by decide, fun hp => absurd rfl (hp d), ?_⟩
    intro p hp; cases hp
    exact ⟨rfl, all127 h⟩
  · have hns := fun d hd => hs ⟨d, hd⟩
    obtain ⟨d, he, hd, hl⟩ := encode_fixed m h hns
    have hr := specLen_ge hl
    exact ⟨_, d, he, rfl, hr.1, hr.2.1, fun _ => all127 hd, fun p hp => absurd hp (hns p)⟩

/-- `len(message)` equals the number of encoded bytes. -/
theorem C01_length (m : Msg) : (encode m).length = m.len := by
  cases m <;> simp [encode, Msg.len]; omega

/-- `from_hex(hex())`: the hex rendering (default separator) reads back byte for byte. -/
theorem C01_hex (bs : List Nat) (h : ∀ b ∈ bs, b < 256) : fromHex (toHex bs) = .ok bs := by
  have := fromHex_toHex_append bs h []
  rwa [List.append_nil, fromHex, Except.map, List.append_nil] at this

/-- hex round trip of a whole message -/
theorem C01_hex_msg (m : Msg) (h : m.Valid) :
    (fromHex (toHex (encode m))).bind decodeNats = .ok m := by
  rw [C01_hex _ (encode_bytes_lt m h)]
  exact C01_decode_encode m h

/-! Non-vacuity: concrete valid messages of the interesting shapes. -/
example : (Msg.pitchwheel 15 (-8192)).Valid ∧ (Msg.pitchwheel 0 8191).Valid ∧
    (Msg.sysex [0, 127, 5]).Valid ∧ (Msg.songpos 16383).Valid ∧ (Msg.quarter_frame 7 15).Valid := by
  decide

example : encode (.pitchwheel 3 (-1)) = [0xe3, 0x7f, 0x3f] := by decide
example : encode (.quarter_frame 7 15) = [0xf1, 0x7f] := by decide

end Mido
