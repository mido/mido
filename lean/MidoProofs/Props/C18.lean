import MidoModel.Socket
import MidoProofs.Lemmas.Numeral
import MidoProofs.Lemmas.Split
import MidoProofs.Props.C06
/-!
  C18 — socket ports deliver exactly the complete messages before a disconnect.
-/
namespace Mido
open List

/-- **format then parse.** For every host without ':' and every port 1..65535 -/
theorem C18_address (h : List Char) (p : Nat) (hh : ∀ c ∈ h, c ≠ ':') (hp : 0 < p ∧ p < 65536) :
    parseAddress (formatAddress h p) = .ok (h, p) := by
  have hd : NoCh ':' (showNat p) := fun c hc => digit_ne c (showNat_digits p c hc) ':' (.inr (by decide))
  have hsplit : splitColon (h ++ ':' :: showNat p) = [h, showNat p] :=
    (splitColon_eq _).trans (splitChar_intercalate ':' [h, showNat p] (cons_ne_nil _ _)
      (forall_mem_cons.mpr ⟨hh, forall_mem_singleton.mpr hd⟩))
  simp only [parseAddress, formatAddress, hsplit, parseNat_showNat, hp, and_self, if_true]

/-- **parse then format** (up to numeral canonicalisation): whatever parses, formats to a string
    that parses to the same pair -/
theorem C18_address_stable (s h : List Char) (p : Nat) (hs : parseAddress s = .ok (h, p)) :
    parseAddress (formatAddress h p) = .ok (h, p) := by
  revert hs
  fun_cases parseAddress s
  case case1 h0 p0 hsp n _ hr =>
    rintro ⟨⟩
    exact C18_address h _ (splitColonAux_parts s [] (by simp) h (by rw [← splitColon, hsp]; simp)) hr
  all_goals nofun

/-- closing the two file objects and the socket releases the descriptor: the peer sees a disconnect -/
theorem C18_close_visible (s : Sock) (h : s.ioRefs = 0) :
    (socketPortClose (socketPortInit s)).fdOpen = false := by
  simp [socketPortClose, socketPortInit, Sock.fdOpen, Sock.close, Sock.fileClose, Sock.makefile, h]

/-- closing only the socket object, with the two file objects still open, leaves the descriptor open -/
example : ((socketPortInit {}).close).fdOpen = true := by decide

theorem partial_silent (st : Tok) (m : Msg) (hv : m.Valid) (j : Nat) (hj : j < (encode m).length) :
    (st.feed ((encode m).take j)).out = st.out := by
  cases j with
  | zero => rfl
  | succ j =>
  rcases encode_cases m hv with ⟨_, he, _⟩ | ⟨_, ⟨d, he, hs, hd, hl⟩ | ⟨d, he, hd⟩⟩
  · rw [he] at hj; simp at hj
  · rw [he] at hj ⊢
    have hj' : j < d.length := by simpa using hj
    have hg := specLen_ge hl
    rw [take_succ_cons, feed_cons, st.feedByte_status hg.1, st.feedStatus_fixed hl hs,
      if_neg (by omega), Tok.feed_data_open (fun x hx => all127 hd x (mem_of_mem_take hx)) _
        (by simp; omega) (by simp; omega)]
  · rw [he] at hj ⊢
    have hj' : j ≤ d.length := by simp at hj; omega
    rw [append_assoc, singleton_append, take_succ_cons, take_append_of_le_length hj', feed_cons,
      st.feedByte_status (by decide), st.feedStatus_sysexStart,
      Tok.feed_data_open (fun x hx => all127 hd x (mem_of_mem_take hx)) _ (by simp) (.inl (Nat.zero_le _))]

/-- **A partial message is silent.** A strict prefix of the encoding of a valid message produces
    no token (so nothing partial or corrupted can ever be delivered). -/
theorem C18_partial_silent (m : Msg) (hv : m.Valid) (j : Nat) (hj : j < (encode m).length) :
    tokenize ((encode m).take j) = [] := partial_silent {} m hv j hj

theorem cut_feed (ms : List Msg) (hv : ∀ m ∈ ms, m.Valid) (st : Tok) (k : Nat) :
    (st.feed ((ms.flatMap encode).take k)).out = st.out ++ (ms.take (completeWithin ms k)).map encode := by
  fun_induction completeWithin ms k generalizing st with
  | case1 => simp [feed_nil]
  | case2 m r k hk ih =>
    obtain ⟨hm, hr⟩ := forall_mem_cons.mp hv
    rw [flatMap_cons, take_append, take_of_length_le hk, ← Tok.feed_append, ih hr, feed_encode st m hm]
    simp [Nat.add_comm]
  | case3 m r k hk =>
    rw [flatMap_cons, take_append_of_le_length (by omega), partial_silent st m (hv m mem_cons_self) k (by omega)]
    simp

/-- **Cut theorem.** However the byte stream of a message sequence is cut (at ANY byte offset
    `k`: peer disconnects or dies), parsing what arrived yields exactly the messages whose
    encodings arrived completely, in order — never a partial or corrupted one. -/
theorem C18_cut (ms : List Msg) (hv : ∀ m ∈ ms, m.Valid) (k : Nat) :
    parseAll ((ms.flatMap encode).take k) = .ok (ms.take (completeWithin ms k)) := by
  rw [parseAll, tokenize, cut_feed ms hv {} k]
  exact decodeTokens_map_encode _ (fun m hm => hv m (mem_of_mem_take hm))

/-- segmentation of the bytes before the cut is irrelevant (C05): any way of delivering them in
    pieces leaves the parser in the same state -/
theorem C18_segmentation (segs : List (List Nat)) :
    segs.foldl Tok.feed {} = Tok.feed {} segs.flatten := C05_chunking {} segs

/-- nothing more than the complete messages: the count never exceeds the list -/
theorem completeWithin_le (ms : List Msg) (k : Nat) : completeWithin ms k ≤ ms.length := by
  fun_induction completeWithin ms k with
  | case1 => exact Nat.le_refl 0
  | case2 m ms k _ ih => rw [length_cons]; omega
  | case3 => exact Nat.zero_le _

end Mido
