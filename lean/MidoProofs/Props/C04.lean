import MidoProofs.Lemmas.TokSub
import MidoProofs.Spec.Vocab
/-!
  C04 — the parser is total and sound on arbitrary byte streams.
-/
namespace Mido
open List

theorem decodeTokens_eq_mapM (toks : List (List Nat)) : decodeTokens toks = toks.mapM decodeNats := by
  induction toks with
  | nil => rfl
  | cons t r ih => simp only [decodeTokens, mapM_cons, ih]

theorem decodeTokens_append {a b : List (List Nat)} {ma mb : List Msg}
    (ha : decodeTokens a = .ok ma) (hb : decodeTokens b = .ok mb) :
    decodeTokens (a ++ b) = .ok (ma ++ mb) := by
  rw [decodeTokens_eq_mapM] at ha hb ⊢
  rw [mapM_append, ha, hb]; rfl

theorem decodeTokens_good (toks : List (List Nat)) (h : ∀ t ∈ toks, GoodTok t) :
    ∃ ms, decodeTokens toks = .ok ms ∧ (∀ m ∈ ms, m.Valid) ∧ ms.map encode = toks := by
  induction toks with
  | nil => exact ⟨[], rfl, by simp, rfl⟩
  | cons t r ih =>
    obtain ⟨ht, hr⟩ := forall_mem_cons.mp h
    obtain ⟨m, hm, hv, he⟩ := ht.decodes
    obtain ⟨ms, hms, hvs, hes⟩ := ih hr
    refine ⟨m :: ms, ?_, forall_mem_cons.mpr ⟨hv, hvs⟩, by simp [he, hes]⟩
    simp [decodeTokens, hm, hms, bind, Except.bind, pure, Except.pure]

theorem decodeTokens_map {α} (xs : List α) (f : α → List Nat) (g : α → Msg)
    (h : ∀ x ∈ xs, decodeNats (f x) = .ok (g x)) : decodeTokens (xs.map f) = .ok (xs.map g) := by
  rw [decodeTokens_eq_mapM]
  induction xs with
  | nil => rfl
  | cons x r ih =>
    obtain ⟨hx, hr⟩ := forall_mem_cons.mp h
    rw [map_cons, mapM_cons, hx, ih hr]
    rfl

theorem encode_cases (m : Msg) (h : m.Valid) :
    (m.isRealtime = true ∧ encode m = [m.status] ∧ definedStatus m.status = true) ∨
    (m.isRealtime = false ∧
      ((∃ d, encode m = m.status :: d ∧ m.status < 0xF8 ∧ d.all (· ≤ 127) = true ∧
          specLen m.status = some (d.length + 1)) ∨
       (∃ d, encode m = [0xF0] ++ d ++ [0xF7] ∧ d.all (· ≤ 127) = true))) := by
  by_cases hs : ∃ d, m = .sysex d
  · obtain ⟨d, rfl⟩ := hs; exact .inr ⟨rfl, .inr ⟨d, rfl, h⟩⟩
  · obtain ⟨d, he, hd, hl⟩ := encode_fixed m h (fun d hd => hs ⟨d, hd⟩)
    by_cases hr : 0xF8 ≤ m.status
    · obtain rfl : d = [] := by simpa using specLen_rt hl hr
      exact .inl ⟨by simp [Msg.isRealtime, hr], he, definedStatus_iff.mpr (.inr ⟨_, hl⟩)⟩
    · exact .inr ⟨by simp [Msg.isRealtime, hr], .inl ⟨d, he, by omega, hd, hl⟩⟩

theorem isRtTok_encode (m : Msg) (h : m.Valid) : isRtTok (encode m) = m.isRealtime := by
  rcases encode_cases m h with ⟨hr, he, _⟩ | ⟨hn, ⟨d, he, hs, _, _⟩ | ⟨d, he, _⟩⟩
  · rw [he]; simpa [isRtTok, Msg.isRealtime] using hr
  · rw [he, hn]
    cases d with
    | nil => simp [isRtTok]; omega
    | cons x r => rfl
  · rw [he, hn]; exact isRtTok_long (by simp)

theorem parse_total (bs : List Nat) :
    ∃ ms, parseAll bs = .ok ms ∧ (∀ m ∈ ms, m.Valid) ∧ ms.map encode = tokenize bs :=
  decodeTokens_good _ (TokInv.init.run bs).out_good

theorem parse_sound {bs : List Nat} {ms : List Msg} (hp : parseAll bs = .ok ms) :
    (∀ m ∈ ms, m.Valid) ∧ ms.map encode = tokenize bs := by
  obtain ⟨ms', hms', h⟩ := parse_total bs
  rw [hp] at hms'; cases hms'; exact h

theorem filter_map_encode (ms : List Msg) (hv : ∀ m ∈ ms, m.Valid) (f : Bool → Bool) :
    (ms.filter (fun m => f m.isRealtime)).map encode =
      (ms.map encode).filter (fun t => f (isRtTok t)) := by
  rw [filter_map]
  congr 1
  apply filter_congr
  intro m hm
  simp [isRtTok_encode m (hv m hm)]

theorem parse_realtime {bs : List Nat} {ms : List Msg} (hp : parseAll bs = .ok ms) :
    (ms.filter Msg.isRealtime).map encode = (bs.filter definedRt).map (fun b => [b]) := by
  obtain ⟨hv, he⟩ := parse_sound hp
  exact (filter_map_encode ms hv id).trans (by rw [he]; exact (FullInv.init.feed bs).rt)

theorem parse_subseq {bs : List Nat} {ms : List Msg} (hp : parseAll bs = .ok ms) :
    ((ms.filter (fun m => !m.isRealtime)).map encode).flatten <+ bs.filter (fun b => !isRtByte b) := by
  obtain ⟨hv, he⟩ := parse_sound hp
  rw [filter_map_encode ms hv not, he]
  exact (sublist_append_left _ _).trans (FullInv.init.feed bs).sub

/-- Totality and soundness: on any list of numbers below 256 (any byte string) the parser does not raise and every message
    it yields is valid; moreover the yielded messages re-encode to exactly the tokens. -/
theorem C04_total (bs : List Nat) (h : ∀ b ∈ bs, b < 256) :
    ∃ ms, parseAll bs = .ok ms ∧ (∀ m ∈ ms, m.Valid) ∧ ms.map encode = tokenize bs :=
  parse_total bs

/-- Each defined real-time status byte of the input yields exactly one real-time message, in
    input order (stated on the encodings, which for real-time messages are the single byte). -/
theorem C04_realtime (bs : List Nat) (h : ∀ b ∈ bs, b < 256) (ms : List Msg)
    (hp : parseAll bs = .ok ms) :
    (ms.filter Msg.isRealtime).map encode = (bs.filter definedRt).map (fun b => [b]) :=
  parse_realtime hp

/-- The bytes of all other yielded messages form, in order, a subsequence of the (non
    real-time) input bytes: nothing invented, duplicated or reordered. -/
theorem C04_subseq (bs : List Nat) (h : ∀ b ∈ bs, b < 256) (ms : List Msg)
    (hp : parseAll bs = .ok ms) :
    ((ms.filter (fun m => !m.isRealtime)).map encode).flatten <+ bs.filter (fun b => !isRtByte b) :=
  parse_subseq hp

theorem tokenize_good (bs : List Nat) : ∀ t ∈ tokenize bs, GoodTok t := (TokInv.init.run bs).out_good

/-- every token is one complete well-formed message -/
theorem C04_valid_tokens (bs : List Nat) (h : ∀ b ∈ bs, b < 256) : ∀ t ∈ tokenize bs, GoodTok t :=
  tokenize_good bs

example : (match parseAll [0x90, 1, 0xF8, 2, 0xF0, 5, 0xFA, 6, 0xF7, 0xF4, 0x33, 0xC1, 0xF4, 7] with
    | .ok ms => decide (ms = [.sys1 .clock, .sys1 .start, .sysex [5, 6], .chan2 .program_change 1 7])
    | .error _ => false) = true := by decide +kernel

end Mido
