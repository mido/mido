import MidoModel.CharsetScope
import MidoProofs.Lemmas.Utf8
/-!
  C17 — text encoding follows the file charset and never leaks out of a call.
  Scoping from the model of `MidoModel/CharsetScope`, the text codecs from `Lemmas/Utf8`.
-/
namespace Mido
open List

/-- one call — successful or raising at ANY point (every failure point of a load or save is a
    value `.error e` of the model) — leaves the process-wide charset as it was -/
theorem C17_step_scoped (g : GState) (c : CCall) : (cstep g c).1 = g := by
  cases c <;> rfl

/-- **Scoped.** After any sequence of loads, saves and unrelated encodings the charset in force
    is the initial one. -/
theorem C17_scoped (g : GState) (calls : List CCall) : (crun g calls).1 = g := by
  induction calls generalizing g with
  | nil => rfl
  | cons c rest ih =>
    simp only [crun, C17_step_scoped]
    exact ih g

/-- meta text encoded elsewhere in the process always uses the initial (default) charset,
    whatever loads and saves — failed or not — happened before -/
theorem C17_probe_default (g : GState) (before : List CCall) (text : List Nat) :
    (cstep (crun g before).1 (.probe text)).2 = .probed (metaBytes g.charset ⟨.text, [.str text]⟩) := by
  rw [C17_scoped]; rfl

/-- **The bytes in the file are the text encoded in the file's charset**: the payload of a
    text-carrying meta message is exactly `encodeText cs text`. -/
theorem C17_uses_charset (cs : Charset) (t : MetaType) (ht : t.isText = true) (s : List Nat) :
    metaPayload cs ⟨t, [.str s]⟩ = encodeText cs s := by
  cases t <;> cases ht <;> rfl

/-- inside a save or load the charset handed to the codec is the file's own -/
theorem C17_inner_charset (g : GState) (cs : Charset) (f : MFile) :
    (cstep g (.save cs f)).2 = .saved (writeFile cs f) := rfl

/-- **UTF-8 round trip**: every text encodable in UTF-8 decodes back to itself -/
theorem C17_utf8_roundtrip (s : List Nat) (bs : List Nat) (h : encodeText .utf8 s = .ok bs) :
    decodeText .utf8 bs = .ok s :=
  (encodeText_decodeText h).2

/-- **UTF-8 is canonical**: whatever bytes the strict decoder accepts are exactly the encoding of the text it returns
    (no overlong forms, surrogates or values above U+10FFFF get through), so a text read from a file is written back as
    the same bytes. -/
theorem C17_utf8_canonical (bs s : List Nat) (h : decodeText .utf8 bs = .ok s) : encodeText .utf8 s = .ok bs :=
  decodeText_encodeText nofun h

/-- 'é€𝄞' (2-, 3- and 4-byte forms) next to an ASCII letter -/
example : encodeText .utf8 [97, 233, 8364, 119070] = .ok [97, 0xC3, 0xA9, 0xE2, 0x82, 0xAC, 0xF0, 0x9D, 0x84, 0x9E] ∧
    decodeText .utf8 [0xC0, 0x80] = .error .UnicodeError ∧ decodeText .utf8 [0xED, 0xA0, 0x80] = .error .UnicodeError := by
  decide +kernel

/-- latin1 and ascii round trips -/
theorem C17_latin_roundtrip (cs : Charset) (hcs : cs ≠ .utf8) (s bs : List Nat)
    (h : encodeText cs s = .ok bs) : decodeText cs bs = .ok s :=
  (encodeText_decodeText h).2

end Mido
