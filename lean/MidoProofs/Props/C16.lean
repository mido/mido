import MidoModel.MidiFileState
import MidoProofs.Props.C12  -- for Audit/C16 (`C12_perm`)
/-!
  C16 — a MidiFile always reflects its current contents.
-/
namespace Mido

/-- **History independence.** After ANY history of edits and earlier observations, the merged
    track observed is a function of the current type and tracks alone — the same as for a freshly
    built file with those contents.  (For a state without a memo field this is immediate; the
    assurance that the implementation is such a state comes from the correspondence on
    histories.) -/
theorem C16_history_independent (ops : List FOp) :
    (fstep (frun {} ops) .obsMerged).2 =
      observeMerged (frun {} ops).type (frun {} ops).tracks := rfl

/-- an earlier observation changes nothing -/
theorem C16_observation_pure (m : MF) : (fstep m .obsMerged).1 = m := rfl

/-- observations inserted anywhere in a history do not change the final contents -/
theorem C16_observations_erasable (ops : List FOp) (m : MF) :
    frun m (ops.filter (fun o => match o with | .obsMerged => false | _ => true)) = frun m ops := by
  induction ops generalizing m with
  | nil => rfl
  | cons op rest ih => cases op <;> exact ih _

/-- what is observed is `mergeTracks` of the *current* tracks -/
theorem C16_merged_current (ops : List FOp) (h : (frun {} ops).type ≠ 2) :
    ∃ t, (fstep (frun {} ops) .obsMerged).2 = .track t ∧ t = mergeTracks (frun {} ops).tracks := by
  refine ⟨_, ?_, rfl⟩
  simp [fstep, observeMerged, h]

end Mido
