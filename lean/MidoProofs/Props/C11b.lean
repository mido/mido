import MidoProofs.Lemmas.PortIter
/-!
  C11 — iteration over a port whose device closes itself before, between or inside receive calls.
-/
namespace Mido
open List

/-- each iteration hands out a pending message or ends the loop -/
theorem pendingFuel_gt (p : Port) : p.pendingAll.length < p.pendingFuel := by
  simp only [Port.pendingAll, Port.pendingFuel, length_append, length_flatMap]; omega

/-- **Close anywhere.**  `for msg in port` on a device port, for EVERY script of the device (any
    arrivals, the device closing itself at any step — before the loop, between two receive calls,
    or inside one, together with arrivals or not) and every state of the port:
    * the loop never ends with an exception;
    * what it hands out, then what the port still holds, then what the device had not delivered,
      is exactly what was there, in order — so every message the port took in is handed out
      before the loop stops, none twice, none invented;
    * if it ends (normally), the port is closed and drained;
    * it does end whenever the device closes at some step (or the port is closed already): the
      only way not to end is a device that stays open and silent for ever. -/
theorem C11_iter_close_anywhere (p : Port) (hk : p.kind = .dev) :
    (∀ e, p.iter.2.2 ≠ .raised e) ∧
    p.iter.2.1 ++ p.iter.1.pendingAll = p.pendingAll ∧
    (p.iter.2.2 = .normal → p.iter.1.closed = true ∧ p.iter.1.queue = []) ∧
    (p.willClose → p.iter.2.2 = .normal) := by
  have hiter : p.iter = Port.iterAll p.pendingFuel p [] := by simp [Port.iter, hk]
  rw [hiter]
  obtain ⟨h3, hc, h4⟩ := iterAll_spec p.pendingFuel p [] hk
  refine ⟨h3, hc, h4, fun hw => ?_⟩
  cases he : (Port.iterAll p.pendingFuel p []).2.2 with
  | normal => rfl
  | raised e => exact absurd he (h3 e)
  | hang =>
    obtain ⟨out, -, h2, -, -, h5⟩ := iterAll_later p.pendingFuel p [] hk
    obtain ⟨hcl, hs⟩ := h5 (pendingFuel_gt p) he
    rcases h2.willClose hw with hcl' | ⟨st, hst, _⟩
    · rw [hcl] at hcl'; cases hcl'
    · rw [hs] at hst; cases hst

/-- the hypotheses are met: the device closes itself in the step in which two messages arrive, one already queued -/
example : (⟨.dev, false, [7], false, [([], false), ([8, 9], true), ([10], false)], [], 0, none⟩ : Port).willClose ∧
    (⟨.dev, false, [7], false, [([], false), ([8, 9], true), ([10], false)], [], 0, none⟩ : Port).iter.2 =
      ([7, 8, 9], .normal) := by
  refine ⟨Or.inr ⟨([8, 9], true), by simp, rfl⟩, by decide +kernel⟩

end Mido
