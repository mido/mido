import MidoProofs.Lemmas.CopyOv
import MidoProofs.Props.C14
/-!
  C15 — `msg.copy(**overrides)` equals a freshly constructed message with those values.
-/
namespace Mido
open List

theorem toOption_bind_comm {α β} (a : Except Err α) (b : Except Err β) (f : β → γ) :
    (do let _ ← a; let y ← b; pure (f y) : Except Err γ).toOption = (do let y ← b; let _ ← a; pure (f y) : Except Err γ).toOption := by
  cases a <;> cases b <;> rfl

/-- **Copy with overrides = fresh construction.**  For every valid message and EVERY set of
    overrides (valid or not, known attribute names or not; a set: no name twice):
    `msg.copy(**ov)` succeeds exactly when `Message(msg.type, **{**vars(msg), **ov})` does, and
    then returns an equal message. -/
theorem C15_copy_overrides (o : MObj) (hv : o.valid = true) (kw : List (String × PyVal))
    (hnd : (kw.map (·.1)).Nodup) :
    (copyObj o none kw).toOption = (construct o.type.name (toDictKw o ++ kw)).toOption := by
  obtain ⟨hl, -, -, hsx⟩ := valid_iff.mp hv
  by_cases hkw : kw = []
  · subst hkw
    simp only [copyObj, isEmpty_nil, Option.isNone_none, Bool.and_self, if_true, append_nil, C14_dict o hv]
  have hcopy : copyObj o none kw = copyObj.copyCore o kw := by
    cases kw with
    | nil => exact absurd rfl hkw
    | cons _ _ => rfl
  rw [hcopy, copyCore_eq, toDictKw, construct_zip o.type o.vals o.time kw hl]
  rcases mapM_tupleData kw with hm | ⟨⟨nv, hm, hname, e2, he2⟩, e, he⟩
  · -- every `data` override can be iterated: only the order of checking and normalising differs
    obtain ⟨h2, hn, hc⟩ := applyKw_tupled o.type kw o.vals o.time hsx
    rw [hm]
    simp only [bind, Except.bind, checkAll, h2, hn, hc]
    exact (norm_check_swap ((applyKw_length ..).trans hl)).symm
  · -- one cannot: `copy` raises at once, the constructor when it normalises (sysex) or for the unknown name `data`
    rw [he]
    by_cases hty : o.type = .sysex
    · obtain ⟨xs0, hxs0⟩ := hsx hty
      obtain ⟨t, vals, time⟩ := o
      subst hty; subst hxs0
      simp only [applyKw_sysex_data kw hnd nv.2 (hname ▸ hm), normData_sysex, he2]
      rfl
    · have hunk := applyKw_unk_data o.type (fun h => hty (data_only_sysex _ h)) kw o.vals o.time
        (hname ▸ mem_map_of_mem (f := (·.1)) hm)
      cases hc : checkAll o.type (applyKw o.type kw o.vals o.time []).1 (applyKw o.type kw o.vals o.time []).2.1
          (applyKw o.type kw o.vals o.time []).2.2 with
      | ok _ => exact absurd (checkAll_ok hc).2.2 hunk
      | error e3 =>
        simp only [normData_nonsysex o.type hty, bind, Except.bind, hc]
        rfl

/-- a valid message and overrides of every kind (valid value, invalid value, unknown name) -/
example :
    copyObj ⟨.note_on, [.int 1, .int 60, .int 64], .int 0⟩ none [("note", .int 61), ("time", .flt 150)] =
      .ok ⟨.note_on, [.int 1, .int 61, .int 64], .flt 150⟩ ∧
    (copyObj ⟨.note_on, [.int 1, .int 60, .int 64], .int 0⟩ none [("note", .int 128)]).toOption = none ∧
    (copyObj ⟨.note_on, [.int 1, .int 60, .int 64], .int 0⟩ none [("data", .list [])]).toOption = none ∧
    copyObj ⟨.sysex, [.tuple [.int 1]], .int 0⟩ none [("data", .list [.int 2, .int 3])] =
      .ok ⟨.sysex, [.tuple [.int 2, .int 3]], .int 0⟩ := by decide +kernel

end Mido
