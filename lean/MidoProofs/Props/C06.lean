import MidoProofs.Props.C05
/-!
  C06 — the parser resynchronises: a complete message is always recognised.
-/
namespace Mido
open List

theorem resync_fixed (st : Tok) {s : Nat} {d : List Nat} (hs : s < 0xF8)
    (hl : specLen s = some (d.length + 1)) (hd : d.all (· ≤ 127) = true) :
    (st.feed (s :: d)).out = st.out ++ [s :: d] ∧ (st.feed (s :: d)).status = 0 := by
  have hg := specLen_ge hl
  rw [feed_cons, st.feedByte_status hg.1, st.feedStatus_fixed hl hs]
  cases d with
  | nil => exact ⟨rfl, rfl⟩
  | cons x r =>
    rw [if_neg (by simp), Tok.feed_data_close (all127 hd) (by simp) (by simp; omega) (by simp; omega)]
    exact ⟨rfl, rfl⟩

theorem sysex_body {xs : List Nat} : ∀ (st : Tok), (∀ x ∈ xs, x < 128 ∨ 0xF8 ≤ x) →
    st.status = 0xF0 → st.len = 0 →
    st.feed xs = { st with bytes := st.bytes ++ xs.filter (· < 128),
                           out := st.out ++ (xs.filter definedRt).map (fun b => [b]) } := by
  induction xs with
  | nil => intro st _ _ _; simp [feed_nil]
  | cons x r ih =>
    intro st hx hst hlen
    obtain ⟨hx0, hr⟩ := forall_mem_cons.mp hx
    rw [feed_cons]
    rcases hx0 with hlt | hge
    · rw [st.feedByte_data hlt, st.feedData_push x (by rw [hst]; decide) (by omega),
        ih { st with bytes := st.bytes ++ [x] } hr hst hlen]
      simp [hlt, definedRt_lt (show x < 0xF8 by omega)]
    · have h1 : ¬ x < 128 := by omega
      rw [st.feedByte_status (by omega), st.feedStatus_rt hge, if_pos hst,
        ih ⟨0xF0, st.bytes, st.len, if definedStatus x then st.out ++ [[x]] else st.out⟩ hr rfl hlen]
      by_cases hdef : definedStatus x = true <;> simp [h1, definedRt, hge, hdef, hst]

theorem resync_sysex_rt (st : Tok) (xs : List Nat) (hx : ∀ x ∈ xs, x < 128 ∨ 0xF8 ≤ x) :
    (st.feed ([0xF0] ++ xs ++ [0xF7])).out =
      st.out ++ (xs.filter definedRt).map (fun b => [b]) ++ [[0xF0] ++ xs.filter (· < 128) ++ [0xF7]] ∧
    (st.feed ([0xF0] ++ xs ++ [0xF7])).status = 0 := by
  rw [append_assoc, singleton_append, feed_cons, st.feedByte_status (by decide), st.feedStatus_sysexStart,
    ← Tok.feed_append, sysex_body _ hx rfl rfl, feed_cons, feed_nil,
    Tok.feedByte_status _ (by decide), Tok.feedStatus_sysexEnd, if_pos rfl]
  exact ⟨rfl, rfl⟩

/-- **Resynchronisation.** From ANY tokenizer state — after garbage, stray bytes or a message
    cut short — the encoding of a valid non-real-time message is recognised as exactly that
    token and the tokenizer is left idle. -/
theorem C06_resync (st : Tok) (m : Msg) (h : m.Valid) (hn : m.isRealtime = false) :
    (st.feed (encode m)).out = st.out ++ [encode m] ∧ (st.feed (encode m)).status = 0 := by
  rcases encode_cases m h with ⟨hr, _⟩ | ⟨_, ⟨d, he, hs, hd, hl⟩ | ⟨d, he, hd⟩⟩
  · rw [hr] at hn; cases hn
  · rw [he]; exact resync_fixed st hs hl hd
  · have hp := all127 hd
    have hdata : d.filter (· < 128) = d := filter_eq_self.mpr fun x hx => by simpa using hp x hx
    have hrt : d.filter definedRt = [] := filter_eq_nil_iff.mpr fun x hx => by
      simp [definedRt_lt (show x < 0xF8 by have := hp x hx; omega)]
    rw [he]; simpa [hdata, hrt] using resync_sysex_rt st d (fun x hx => .inl (hp x hx))

/-- real-time messages are recognised from any state too, and leave an open sysex open -/
theorem C06_resync_rt (st : Tok) (m : Msg) (h : m.Valid) (hr : m.isRealtime = true) :
    (st.feed (encode m)).out = st.out ++ [encode m] ∧
    (st.feed (encode m)).status = (if st.status = 0xF0 then 0xF0 else 0) ∧
    (st.status = 0xF0 → (st.feed (encode m)).bytes = st.bytes ∧ (st.feed (encode m)).len = st.len) := by
  rcases encode_cases m h with ⟨_, he, hd⟩ | ⟨hn, _⟩
  · have hs : 0xF8 ≤ m.status := by simpa [Msg.isRealtime] using hr
    rw [he, feed_cons, feed_nil, st.feedByte_status (by omega), st.feedStatus_rt hs, hd]
    exact ⟨rfl, rfl, fun _ => ⟨rfl, rfl⟩⟩
  · rw [hn] at hr; cases hr

theorem feed_encode (st : Tok) (m : Msg) (h : m.Valid) :
    (st.feed (encode m)).out = st.out ++ [encode m] := by
  cases hr : m.isRealtime with
  | false => exact (C06_resync st m h hr).1
  | true => exact (C06_resync_rt st m h hr).1

theorem decodeTokens_map_encode (ms : List Msg) (hv : ∀ m ∈ ms, m.Valid) :
    decodeTokens (ms.map encode) = .ok ms := by
  simpa using decodeTokens_map ms encode id (fun m hm => decode_encode m (hv m hm))

theorem parse_prefix (P : List Nat) (m : Msg) (h : m.Valid) :
    parseAll (P ++ encode m) = .ok (parsed P ++ [m]) :=
  parse_append (feed_encode _ m h) (decodeTokens_map_encode [m] (forall_mem_singleton.mpr h))

/-- **Prefix theorem.** For ANY byte prefix `P` and any valid message `m`: parsing `P` followed
    by the encoding of `m` yields exactly the messages of `P` followed by `m`. -/
theorem C06_prefix (P : List Nat) (hP : ∀ b ∈ P, b < 256) (m : Msg) (h : m.Valid) :
    parseAll (P ++ encode m) = .ok (parsed P ++ [m]) := parse_prefix P m h

theorem concat_after (ms : List Msg) (h : ∀ m ∈ ms, m.Valid) :
    ∀ (P : List Nat), parseAll (P ++ ms.flatMap encode) = .ok (parsed P ++ ms) := by
  induction ms with
  | nil =>
    intro P
    simpa using parseAll_parsed P
  | cons m r ih =>
    intro P
    obtain ⟨hm, hr⟩ := forall_mem_cons.mp h
    rw [flatMap_cons, ← append_assoc, ih hr]
    simp [parsed, parse_prefix P m hm]

theorem encodes_bytes_lt (ms : List Msg) (h : ∀ m ∈ ms, m.Valid) : ∀ b ∈ ms.flatMap encode, b < 256 := by
  intro b hb
  obtain ⟨m, hm, hbm⟩ := mem_flatMap.mp hb
  exact encode_bytes_lt m (h m hm) b hbm

/-- **Concatenation.** Any concatenation of encoded valid messages parses back to the list. -/
theorem C06_concat (ms : List Msg) (h : ∀ m ∈ ms, m.Valid) :
    parseAll (ms.flatMap encode) = .ok ms := by
  simpa [parsed, parseAll, tokenize, Tok.feed, decodeTokens] using concat_after ms h []

/-- the `.sys1 .clock` is never reached: every use is under `filter definedRt` -/
def rtMsg (b : Nat) : Msg := match s1OfStatus b with | some k => .sys1 k | none => .sys1 .clock

theorem decode_rt {x : Nat} (h : definedRt x = true) : decodeNats [x] = .ok (rtMsg x) := by
  obtain ⟨h8, hd⟩ : 0xF8 ≤ x ∧ definedStatus x = true := by simpa [definedRt] using h
  rcases definedStatus_iff.mp hd with rfl | ⟨n, hn⟩
  · omega
  obtain rfl := specLen_rt hn h8
  obtain ⟨k, hk, hd⟩ := decode_single hn
  rw [hd, rtMsg, hk]

theorem parse_sysex_rt (P xs : List Nat) (hx : ∀ x ∈ xs, x < 128 ∨ 0xF8 ≤ x) :
    parseAll (P ++ ([0xF0] ++ xs ++ [0xF7])) =
      .ok (parsed P ++ (xs.filter definedRt).map rtMsg ++ [.sysex (xs.filter (· < 128))]) := by
  have hvalid : (xs.filter (· < 128)).all (· ≤ 127) = true := all_eq_true.mpr fun x hx => by
    have := (mem_filter.mp hx).2
    simp at this ⊢
    omega
  rw [append_assoc (parsed P)]
  refine parse_append ?_ (decodeTokens_append
    (decodeTokens_map _ _ rtMsg (fun x hx => decode_rt (mem_filter.mp hx).2))
    (decodeTokens_map [xs.filter (· < 128)] (fun d => [0xF0] ++ d ++ [0xF7]) .sysex
      (fun d hd => by rw [mem_singleton.mp hd]; exact decode_sysex hvalid)))
  rw [(resync_sysex_rt _ xs hx).1, append_assoc]
  rfl

/-- **Real-time inside sysex.** Any number of real-time bytes at any positions strictly inside
    the encoding of a sysex message are delivered, ahead of it, without changing its payload
    (undefined real-time bytes 0xF9/0xFD are dropped silently). -/
theorem C06_sysex_rt (P : List Nat) (hP : ∀ b ∈ P, b < 256) (xs : List Nat)
    (hx : ∀ x ∈ xs, x < 128 ∨ (0xF8 ≤ x ∧ x < 256)) :
    parseAll (P ++ ([0xF0] ++ xs ++ [0xF7])) =
      .ok (parsed P ++ (xs.filter definedRt).map rtMsg ++ [.sysex (xs.filter (· < 128))]) :=
  parse_sysex_rt P xs fun x h => (hx x h).imp id And.left

example : (Tok.feed { status := 0x90, bytes := [0x90, 5], len := 3, out := [] }
    (encode (.chan2 .program_change 2 9))).out = [[0xC2, 9]] := by decide

example : (match parseAll ([0x90, 1] ++ ([0xF0] ++ [1, 0xF8, 2, 0xF9, 0xFE] ++ [0xF7])) with
    | .ok ms => decide (ms = [.sys1 .clock, .sys1 .active_sensing, .sysex [1, 2]])
    | .error _ => false) = true := by decide +kernel

end Mido
