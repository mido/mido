import MidoModel.Tempo
/-!
  C13 — playback timing follows the tempo map.
-/
namespace Mido
open List

def sumList (l : List Nat) : Nat := l.foldl (· + ·) 0

theorem sumList_eq_sum (l : List Nat) : sumList l = l.sum := (List.sum_eq_foldl ..).symm

theorem integral_congr {c1 c2 : Nat} {e1 e2 : List (Nat × Option Nat)} {a n : Nat}
    (h : ∀ u, a ≤ u → u < a + n → tempoAt c1 e1 u = tempoAt c2 e2 u) :
    integral c1 e1 a n = integral c2 e2 a n := by
  induction n with
  | zero => rfl
  | succ n ih =>
    simp only [integral]
    rw [ih (fun u h1 h2 => h u h1 (Nat.lt_succ_of_lt h2)), h (a + n) (Nat.le_add_right a n) (Nat.lt_succ_self _)]

theorem integral_nil (cur a n : Nat) : integral cur [] a n = n * cur := by
  induction n with
  | zero => simp [integral]
  | succ n ih => rw [integral, ih, tempoAt, Nat.succ_mul]

theorem integral_const {cur : Nat} {evs : List (Nat × Option Nat)} {a n : Nat}
    (h : ∀ u, a ≤ u → u < a + n → tempoAt cur evs u = cur) : integral cur evs a n = n * cur :=
  (integral_congr (c2 := cur) (e2 := []) h).trans (integral_nil cur a n)

theorem integral_add (cur : Nat) (evs : List (Nat × Option Nat)) (a n m : Nat) :
    integral cur evs a (n + m) = integral cur evs a n + integral cur evs (a + n) m := by
  induction m with
  | zero => simp [integral]
  | succ m ih =>
    rw [← Nat.add_assoc, integral, ih, integral, Nat.add_assoc a n m, Nat.add_assoc]

theorem tempoAt_first (cur : Nat) (e : PEv) (r : List PEv) (s u : Nat) (h : u < s + e.delta) :
    tempoAt cur (absTicks s (e :: r)) u = cur := by
  simp only [absTicks, tempoAt]; rw [if_neg (Nat.not_le_of_lt h)]

/-- events lie at or after `s`: before the first event the tempo is the current one -/
theorem tempoAt_before (cur : Nat) (es : List PEv) (s u : Nat) (h : u < s) :
    tempoAt cur (absTicks s es) u = cur := by
  cases es with
  | nil => rfl
  | cons e r => exact tempoAt_first cur e r s u (Nat.lt_of_lt_of_le h (Nat.le_add_right s e.delta))

theorem tempoAt_skip (cur : Nat) (e : PEv) (r : List PEv) (s u : Nat) (h : s + e.delta ≤ u) :
    tempoAt cur (absTicks s (e :: r)) u =
      tempoAt (e.tempo.getD cur) (absTicks (s + e.delta) r) u := by
  simp only [absTicks, tempoAt]; rw [if_pos h]

def totalDelta : List PEv → Nat
  | [] => 0
  | e :: es => e.delta + totalDelta es

theorem sumList_cons (x : Nat) (xs : List Nat) : sumList (x :: xs) = x + sumList xs := by
  rw [sumList_eq_sum, sumList_eq_sum, sum_cons]

/-- **Tempo-map integral.** For every prefix of the merged track: the cumulative time of the
    yielded messages equals the exact integral of the tempo map (the tempo in force on each tick,
    500000 until a set_tempo, which applies only to ticks after it) up to the absolute tick of
    the last message of the prefix.  Generalised over the current tempo and starting tick. -/
theorem iter_integral (es : List PEv) : ∀ (cur s k : Nat),
    sumList ((iterMicro cur es).take k) =
      integral cur (absTicks s es) s (totalDelta (es.take k)) := by
  induction es with
  | nil => intro cur s k; simp [iterMicro, sumList, totalDelta, integral]
  | cons e r ih =>
    intro cur s k
    cases k with
    | zero => simp [sumList, totalDelta, integral]
    | succ k =>
      simp only [iterMicro, take_succ_cons, sumList_cons, totalDelta]
      rw [integral_add, integral_const (fun u _ hu => tempoAt_first cur e r s u hu),
        integral_congr (fun u hu _ => tempoAt_skip cur e r s u hu), ← ih]
      split
      · rfl
      · simp [show e.delta = 0 by omega]

theorem iterMicro_length (es : List PEv) : ∀ c, (iterMicro c es).length = es.length := by
  induction es with
  | nil => intro c; rfl
  | cons e r ih => intro c; simp [iterMicro, ih]

/-- the statement of the property for a whole file: default tempo, tick 0 -/
theorem C13_integral (es : List PEv) (k : Nat) :
    sumList ((iterMicro defaultTempo es).take k) =
      integral defaultTempo (absTicks 0 es) 0 (totalDelta (es.take k)) :=
  iter_integral es defaultTempo 0 k

/-- `length` is the cumulative time of the last message -/
theorem C13_length (es : List PEv) :
    lengthMicro es = integral defaultTempo (absTicks 0 es) 0 (totalDelta es) := by
  have := C13_integral es es.length
  rwa [take_of_length_le (by rw [iterMicro_length]; exact Nat.le_refl _), take_length] at this

/-- a type-2 file refuses both iteration (TypeError) and length (ValueError) -/
theorem C13_type2 (es : List PEv) :
    iterFile 2 es = .error .TypeError ∧ lengthFile 2 es = .error .ValueError := ⟨rfl, rfl⟩

/-- One round: with a clock that never runs backwards and a sleep that returns no earlier than
    requested (`extra ≥ 0`), the message is never handed out before its scheduled time, and the
    sleep request is exactly the remaining time — it depends on the current clock reading only,
    so a slow consumer causes no accumulated drift. -/
theorem C13_round (start inputTime now0 extra : Int) (he : 0 ≤ extra) :
    let r := playRound start inputTime now0 extra
    start + inputTime ≤ r.1.yieldedAt ∧
    r.1.sleepReq = max 0 (start + inputTime - now0) ∧
    now0 ≤ r.2 ∧ r.2 = r.1.yieldedAt := by
  fun_cases playRound start inputTime now0 extra <;> and_intros <;> dsimp +zetaDelta only <;> omega

theorem not_early_of_overshoot (start : Int) (ts : List Nat) : ∀ (inputTime clock : Int) (sched : List (Int × Int)),
    (∀ p ∈ sched, 0 ≤ p.2) →
    ∀ k (hk : k < (playAll start inputTime clock ts sched).length),
      start + inputTime + (sumList (ts.take (k + 1)) : Int) ≤
        ((playAll start inputTime clock ts sched)[k]).yieldedAt := by
  induction ts with
  | nil => intro _ _ _ _ k hk; simp [playAll] at hk
  | cons t r ih =>
    intro inputTime clock sched hs k hk
    have hhd : 0 ≤ (sched.headD (0, 0)).2 := by
      cases sched with
      | nil => simp
      | cons p q => exact hs p (by simp)
    have htl : ∀ p ∈ sched.tail, 0 ≤ p.2 := fun p hp => hs p (mem_of_mem_tail hp)
    simp only [playAll] at hk ⊢
    cases k with
    | zero =>
      simp only [getElem_cons_zero, take_succ_cons, take_zero, sumList_cons]
      have := (C13_round start (inputTime + t) (clock + (sched.headD (0, 0)).1) (sched.headD (0, 0)).2 hhd).1
      simp only [sumList, foldl_nil] at *
      omega
    | succ k =>
      simp only [getElem_cons_succ, take_succ_cons, sumList_cons]
      have := ih (inputTime + t)
        (playRound start (inputTime + t) (clock + (sched.headD (0, 0)).1) (sched.headD (0, 0)).2).2
        sched.tail htl k (Nat.lt_of_succ_lt_succ hk)
      refine Int.le_trans (Int.le_of_eq ?_) this
      simp only [Int.natCast_add]; omega

/-- whole playback: every message k is yielded no earlier than start + (cumulative time of k) -/
theorem C13_not_early (start : Int) (ts : List Nat) : ∀ (inputTime clock : Int) (sched : List (Int × Int)),
    (∀ p ∈ sched, 0 ≤ p.1 ∧ 0 ≤ p.2) →
    ∀ k (hk : k < (playAll start inputTime clock ts sched).length),
      start + inputTime + (sumList (ts.take (k + 1)) : Int) ≤
        ((playAll start inputTime clock ts sched)[k]).yieldedAt :=
  fun inputTime clock sched hs => not_early_of_overshoot start ts inputTime clock sched fun p hp => (hs p hp).2

/-- exact arithmetic: `tick2second` of an integer tick is `t * tempo` micro-ticks; dividing by
    the same scale (`tempo` micro-ticks per tick) is exact, so `second2tick`, which rounds the
    quotient, returns `t` for any positive tempo and resolution -/
theorem C13_units_exact (t tempo : Nat) (h : 0 < tempo) :
    t * tempo / tempo = t ∧ t * tempo % tempo = 0 :=
  ⟨Nat.mul_div_cancel t h, Nat.mul_mod_left t tempo⟩

/-! Non-vacuity: a tempo change in the middle (test of the model). -/
example : iterMicro defaultTempo [⟨10, none, false⟩, ⟨0, some 250000, true⟩, ⟨4, none, false⟩, ⟨0, some 1, true⟩, ⟨3, none, false⟩]
    = [5000000, 0, 1000000, 0, 3] := by decide

end Mido
