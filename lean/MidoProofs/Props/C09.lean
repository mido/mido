import MidoProofs.Lemmas.MetaRt
import MidoProofs.Lemmas.Utf8
import MidoProofs.Lemmas.Vlq
import MidoProofs.Spec.Vocab
/-!
  C09 — meta message codec accepts and preserves every documented value.
-/
namespace Mido
open List

/-- **Payload round trip.** Whatever payload a checked, normalised meta message encodes to, it
    consists of bytes and decodes back to exactly the message's attribute values. -/
theorem C09_payload_roundtrip (cs : Charset) (m : MetaMsg)
    (hc : m.check = .ok ()) (hn : m.normal = true) (p : List Nat)
    (hp : metaPayload cs m = .ok p) :
    (∀ b ∈ p, b < 256) ∧ metaDecodePayload cs m.ty p = .ok m.vals := by
  obtain ⟨ty, vals⟩ := m
  obtain ⟨hlen, hchk⟩ := (check_ok ty vals).mp hc
  have hnil : ∀ x ∈ ([] : List Nat), x < 256 := forall_mem_nil _
  have lo : ∀ n : Nat, n &&& 0xff < 256 := fun _ => Nat.lt_succ_of_le Nat.and_le_right
  cases ty
  case end_of_track =>
    cases eq_nil_of_length_eq_zero hlen
    cases hp
    exact ⟨hnil, rfl⟩
  case smpte_offset =>
    obtain ⟨fr, hrs, mi, sec, frm, sf, rfl⟩ := length_six hlen
    simp only [checkAttrsFrom_cons] at hchk
    obtain ⟨hfr, hh, hmi, hs, hf, hsf, -⟩ := hchk
    obtain ⟨c, hcode⟩ := frameRate_ok hfr
    obtain ⟨eh, -⟩ := checkInt_nat hh
    rw [← eh] at hn
    obtain ⟨em, lm⟩ := checkInt_nat hmi
    obtain ⟨es, ls⟩ := checkInt_nat hs
    obtain ⟨ef, lf⟩ := checkInt_nat hf
    obtain ⟨esf, lsf⟩ := checkInt_nat hsf
    simp only [metaPayload, hcode, Except.ok.injEq] at hp
    subst hp
    simp only [MetaMsg.normal, PyVal.nat, Int.ofNat_eq_natCast, Bool.and_eq_true, Bool.or_eq_true, beq_iff_eq,
      decide_eq_true_eq] at hn
    obtain ⟨hrate, hh32⟩ := hn
    obtain ⟨hc4, hfind⟩ := frameRate_roundtrip fr (by simpa only [mem_cons, not_mem_nil, or_false, or_assoc] using hrate) c hcode
    obtain ⟨b0, e1, e2⟩ := smpte_roundtrip c (natOf hrs) hc4 (by omega)
    refine ⟨bytes_cons b0 (bytes_cons (by omega) (bytes_cons (by omega) (bytes_cons (by omega) (bytes_cons (by omega) hnil)))), ?_⟩
    obtain ⟨r, hr, hfr⟩ := Option.map_eq_some_iff.mp hfind
    simp only [metaDecodePayload, e1, e2, hr, hfr, eh, em, es, ef, esf,
      show ¬ natOf mi > 59 by omega, show ¬ natOf sec > 59 by omega, show ¬ natOf sf > 99 by omega, if_false]
  case time_signature =>
    obtain ⟨n, d, c, b, rfl⟩ := length_four hlen
    simp only [checkAttrsFrom_cons] at hchk
    obtain ⟨hn, hd, hc, hb, -⟩ := hchk
    obtain ⟨en, bn⟩ := checkInt_nat hn
    obtain ⟨bd, ed⟩ := denominator_ok hd
    obtain ⟨ec, bc⟩ := checkInt_nat hc
    obtain ⟨eb, bb⟩ := checkInt_nat hb
    cases hp
    exact ⟨bytes_cons (by omega) (bytes_cons (by omega) (bytes_cons (by omega) (bytes_cons (by omega) hnil))),
      by simp only [metaDecodePayload, en, ed, ec, eb]⟩
  -- the other types have one attribute
  all_goals obtain ⟨v, rfl, hv⟩ := check_one hlen hchk
  case sequence_number =>
    obtain ⟨e, h⟩ := checkInt_nat hv
    cases hp
    exact ⟨bytes_cons (by rw [shr8]; omega) (bytes_cons (lo _) hnil), by simp only [metaDecodePayload, seq_roundtrip, e]⟩
  case channel_prefix | midi_port =>
    obtain ⟨e, h⟩ := checkInt_nat hv
    cases hp
    exact ⟨bytes_cons (by omega) hnil, by simp only [metaDecodePayload, e]⟩
  case set_tempo =>
    obtain ⟨e, h⟩ := checkInt_nat hv
    cases hp
    exact ⟨bytes_cons (by rw [shr16]; omega) (bytes_cons (lo _) (bytes_cons (lo _) hnil)),
      by simp only [metaDecodePayload, tempo_roundtrip, e]⟩
  case key_signature =>
    obtain ⟨s, ⟨k, mode⟩, rfl, hk⟩ := key_ok hv
    simp only [metaPayload, hk, Except.ok.injEq] at hp
    subst hp
    obtain ⟨e1, e2, e3⟩ := keyEncode_sound hk
    exact ⟨bytes_cons e2 (bytes_cons e3 hnil), by simp only [metaDecodePayload, e1]⟩
  case sequencer_specific =>
    cases v with
    | tuple xs =>
      cases hp
      obtain ⟨e1, e2⟩ := map_natItem_itemNat xs hv
      exact ⟨e2, by simp only [metaDecodePayload, itemsOf, e1]⟩
    | _ => cases hn
  case text | copyright | track_name | instrument_name | lyrics | marker | cue_marker | device_name =>
    obtain ⟨s, rfl⟩ := checkStr_ok hv
    obtain ⟨e1, e2⟩ := encodeText_decodeText hp
    exact ⟨e1, by simp only [metaDecodePayload, e2, Except.map]⟩

/-- the wire form: `FF <type> <vlq length> <payload>` -/
theorem C09_form (cs : Charset) (m : MetaMsg) (bs : List Nat) (h : metaBytes cs m = .ok bs) :
    ∃ p, metaPayload cs m = .ok p ∧ bs = [0xff, m.ty.typeByte] ++ encVlq p.length ++ p :=
  let ⟨p, hp, h⟩ := bind_eq_ok.mp h
  ⟨p, hp, (Except.ok.inj h).symm⟩

theorem ofByte_typeByte (t : MetaType) : MetaType.ofByte t.typeByte = some t := by
  cases t <;> rfl

/-- **Round trip through `from_bytes`**, partial: for messages in normal form (`MetaMsg.normal`, with `hours < 32`: F5). -/
theorem C09_roundtrip_partial (cs : Charset) (m : MetaMsg)
    (hc : m.check = .ok ()) (hn : m.normal = true) (bs : List Nat) (h : metaBytes cs m = .ok bs) :
    metaFromBytes cs bs = .ok (.known m) ∧ ∀ b ∈ bs, b < 256 := by
  obtain ⟨p, hp, rfl⟩ := C09_form cs m bs h
  obtain ⟨hb, hd⟩ := C09_payload_roundtrip cs m hc hn p hp
  constructor
  · simp only [metaFromBytes, cons_append, nil_append, readVlq_encVlq, if_true,
      buildMeta, ofByte_typeByte, hd, Except.map]
    exact if_neg (fun h => h rfl)
  · exact bytes_cons (by decide) (bytes_cons (by cases m.ty <;> decide)
      (forall_mem_append.mpr ⟨(encVlq_shape p.length).bytes, hb⟩))

/-- every meta message that passes its checks and is not a text message can be encoded -/
theorem C09_encodes (cs : Charset) (m : MetaMsg) (hc : m.check = .ok ())
    (ht : m.ty.isText = false) : ∃ p, metaPayload cs m = .ok p := by
  obtain ⟨ty, vals⟩ := m
  obtain ⟨hlen, hchk⟩ := (check_ok ty vals).mp hc
  cases ty with
  | sequence_number | channel_prefix | midi_port | set_tempo | sequencer_specific =>
    obtain ⟨v, rfl⟩ := length_eq_one_iff.mp hlen
    exact ⟨_, rfl⟩
  | end_of_track =>
    cases eq_nil_of_length_eq_zero hlen
    exact ⟨_, rfl⟩
  | time_signature =>
    obtain ⟨n, d, c, b, rfl⟩ := length_four hlen
    exact ⟨_, rfl⟩
  | smpte_offset =>
    obtain ⟨fr, h, mi, s, f, sf, rfl⟩ := length_six hlen
    obtain ⟨c, hs⟩ := frameRate_ok ((checkAttrsFrom_cons ..).mp hchk).1
    exact ⟨_, by simp only [metaPayload, hs]; rfl⟩
  | key_signature =>
    obtain ⟨v, rfl, hv⟩ := check_one hlen hchk
    obtain ⟨s, ⟨k, mode⟩, rfl, hk⟩ := key_ok hv
    exact ⟨_, by simp only [metaPayload, hk]; rfl⟩
  | text | copyright | track_name | instrument_name | lyrics | marker | cue_marker | device_name =>
    cases ht

/-- **Documented values are accepted.** -/
theorem C09_accepts_denominator (k : Nat) (hk : k ≤ 255) :
    metaCheckAttr .time_signature 1 (.int (2 ^ k : Nat)) = .ok () := by
  have h1 : (1 : Int) ≤ ((2 ^ k : Nat) : Int) := Int.ofNat_le.mpr Nat.one_le_two_pow
  have h2 : ((2 ^ k : Nat) : Int) ≤ 2 ^ 255 := Int.ofNat_le.mpr (Nat.pow_le_pow_right (by decide) hk)
  simp only [metaCheckAttr, if_true, checkInt, h1, h2, and_self, bind, Except.bind,
    Int.toNat_natCast, isPow2_pow]

theorem C09_accepts_keys : keyTable.length = 30 ∧ keyTable.all (fun e =>
    match metaCheckAttr .key_signature 0 (.str (strCodes e.2)) with | .ok _ => true | _ => false) = true := by
  refine ⟨rfl, all_eq_true.mpr fun e he => ?_⟩
  simp only [metaCheckAttr, hashable, (key_table_roundtrip e he).1, Option.isSome_some, if_true, Bool.not_true,
    Bool.false_eq_true, if_false]

theorem C09_accepts_ints :
    (∀ n : Int, 0 ≤ n → n ≤ 16777215 → metaCheckAttr .set_tempo 0 (.int n) = .ok ()) ∧
    (∀ n : Int, 0 ≤ n → n ≤ 65535 → metaCheckAttr .sequence_number 0 (.int n) = .ok ()) ∧
    (∀ n : Int, 0 ≤ n → n ≤ 255 → metaCheckAttr .channel_prefix 0 (.int n) = .ok ()) ∧
    (∀ n : Int, 0 ≤ n → n ≤ 255 → metaCheckAttr .midi_port 0 (.int n) = .ok ()) ∧
    (∀ (t : MetaType) (s : List Nat), t.isText = true → metaCheckAttr t 0 (.str s) = .ok ()) := by
  have ci : ∀ {n lo hi : Int}, lo ≤ n → n ≤ hi → checkInt (.int n) lo hi = .ok () := fun h1 h2 => if_pos ⟨h1, h2⟩
  exact ⟨fun _ => ci, fun _ => ci, fun _ => ci, fun _ => ci, fun t s ht => by cases t <;> cases ht <;> rfl⟩

theorem checkInt_err {v lo hi e} (h : checkInt v lo hi = .error e) : e = .ValueError ∨ e = .TypeError := by
  revert h
  fun_cases checkInt v lo hi <;> intro h <;> cases h
  · exact .inl rfl
  · exact .inr rfl

theorem checkStr_err {v e} (h : checkStr v = .error e) : e = .ValueError ∨ e = .TypeError := by
  cases v <;> cases h <;> exact .inr rfl

theorem checkByteItems_err {xs e} (h : checkByteItems xs = .error e) : e = .ValueError ∨ e = .TypeError := by
  induction xs with
  | nil => cases h
  | cons x r ih =>
    rcases bind_eq_error.mp h with hx | ⟨_, -, hr⟩
    · revert hx
      fun_cases checkByteItem x <;> intro hx <;> cases hx
      · exact .inl rfl
      · exact .inr rfl
    · exact ih hr

/-- **Rejections are `ValueError` or `TypeError`.** -/
theorem C09_rejects (t : MetaType) (i : Nat) (v : PyVal) (e : Err)
    (h : metaCheckAttr t i v = .error e) : e = .ValueError ∨ e = .TypeError := by
  revert h
  fun_cases metaCheckAttr t i v <;> intro h
  -- numbering: the right-hand sides of `metaCheckAttr` from top to bottom
  case case12 | case14 | case23 | case28 | case29 => cases h
  case case15 | case22 | case30 | case31 => cases h; exact .inr rfl
  case case24 | case25 => cases h; exact .inl rfl
  case case2 | case3 | case4 | case5 | case6 | case7 | case8 | case9 => exact checkStr_err h
  case case26 | case27 => exact checkByteItems_err h
  case case20 =>
    rcases bind_eq_error.mp h with hc | ⟨_, hc, hm⟩
    · exact checkInt_err hc
    · obtain ⟨n, rfl, -⟩ := checkInt_ok hc
      simp only at hm
      split at hm <;> cases hm
      exact .inl rfl
  case case1 | case10 | case11 | case13 | case16 | case17 | case18 | case19 | case21 => exact checkInt_err h

/-- variable-length quantities read back exactly and are minimal -/
theorem C09_vlq (n : Nat) (rest : List Nat) :
    readVlq (encVlq n ++ rest) = .ok (n, rest) ∧ VlqShape (encVlq n) ∧
    ∃ b r, encVlq n = b :: r ∧ (r ≠ [] → b ≠ 0x80) :=
  ⟨readVlq_encVlq n rest, encVlq_shape n, encVlq_minimal n⟩

/-! Non-vacuity and the negative witness of the known finding F5 (tests of the model). -/
example : (⟨.smpte_offset, [.flt 2997, .int 31, .int 59, .int 59, .int 255, .int 99]⟩ : MetaMsg).check = .ok ()
    ∧ (⟨.smpte_offset, [.flt 2997, .int 31, .int 59, .int 59, .int 255, .int 99]⟩ : MetaMsg).normal = true := by
  decide

/-- F5: hours = 32 passes the check but does not survive the wire format -/
example : (⟨.smpte_offset, [.int 24, .int 32, .int 0, .int 0, .int 0, .int 0]⟩ : MetaMsg).check = .ok () ∧
    metaBytes .latin1 ⟨.smpte_offset, [.int 24, .int 32, .int 0, .int 0, .int 0, .int 0]⟩
      = .ok [255, 84, 5, 32, 0, 0, 0, 0] ∧
    metaFromBytes .latin1 [255, 84, 5, 32, 0, 0, 0, 0]
      = .ok (.known ⟨.smpte_offset, [.int 25, .int 0, .int 0, .int 0, .int 0, .int 0]⟩) := by
  refine ⟨by decide, by decide +kernel, by decide +kernel⟩

end Mido
