import MidoModel.Strings
import MidoProofs.Lemmas.ObjModel
/-!
  C14 — text and dict representations round-trip (`from_str(str(m)) == m` is in Props/C14b; `repr` is outside the model).
-/
namespace Mido
open List

/-- the result satisfies `P`, or is a ValueError -/
def OnlyValueError {α : Type} (P : α → Prop) : Except Err α → Prop
  | .ok a => P a
  | .error e => e = .ValueError

theorem OnlyValueError.imp {α : Type} {P Q : α → Prop} {r : Except Err α} (h : OnlyValueError P r)
    (hPQ : ∀ a, P a → Q a) : OnlyValueError Q r := by
  cases r with
  | error e => exact h
  | ok a => exact hPQ a h

theorem OnlyValueError.map {α β : Type} {P : β → Prop} {f : α → β} {r : Except Err α}
    (h : OnlyValueError (fun a => P (f a)) r) : OnlyValueError P (r.map f) := by
  cases r <;> exact h

theorem OnlyValueError.bind {α β : Type} {P : α → Prop} {Q : β → Prop} {r : Except Err α} {f : α → Except Err β}
    (h : OnlyValueError P r) (hf : ∀ a, P a → OnlyValueError Q (f a)) : OnlyValueError Q (r >>= f) := by
  cases r with
  | error e => exact h
  | ok a => exact hf a h

theorem checkDataItems_int_err {ns : List Int} {e : Err} (h : checkDataItems (ns.map Item.int) = .error e) :
    e = .ValueError := by
  induction ns with
  | nil => cases h
  | cons n r ih =>
    rcases bind_eq_error.mp h with h | ⟨_, _, h⟩
    · exact checkRange_int_err (k := n) (lo := 0) (hi := 127) h
    · exact ih h

/-- what `str2msg` can hand to the constructor: never ill-typed, so its check fails with ValueError only -/
def GoodShape (n : String) (v : PyVal) : Prop :=
  (n ≠ "data" ∧ ∃ k, v = .int k) ∨ (n = "time" ∧ ∃ h, v = .flt h) ∨
  (n = "data" ∧ ∃ ns : List Int, v = .list (ns.map Item.int) ∨ v = .tuple (ns.map Item.int))

theorem checkAttr_shape_err {n : String} {v : PyVal} {e : Err} (hs : GoodShape n v)
    (h : checkAttr n v = .error e) : e = .ValueError := by
  rcases hs with ⟨hnd, k, rfl⟩ | ⟨rfl, hh, rfl⟩ | ⟨rfl, ns, hv⟩
  · by_cases ht : n = "time"
    · subst ht; cases h
    · obtain ⟨lo, hi, hr⟩ := checkAttr_range hnd ht
      exact checkRange_int_err (hr _ ▸ h)
  · cases h
  · rw [checkAttr_data] at h
    rcases hv with rfl | rfl <;> exact checkDataItems_int_err h

theorem applyKw_shaped (t : MType) (kw : List (String × PyVal)) (vals : List PyVal) (time : PyVal) (unk : List String)
    (hkw : ∀ nv ∈ kw, GoodShape nv.1 nv.2) (h1 : ∀ nv ∈ t.valueNames.zip vals, GoodShape nv.1 nv.2)
    (h2 : GoodShape "time" time) :
    (∀ nv ∈ t.valueNames.zip (applyKw t kw vals time unk).1, GoodShape nv.1 nv.2) ∧
      GoodShape "time" (applyKw t kw vals time unk).2.1 := by
  fun_induction applyKw t kw vals time unk with
  | case1 => exact ⟨h1, h2⟩
  | case2 n v r vals time unk h ih =>
    exact ih (forall_mem_cons.mp hkw).2 h1 (beq_iff_eq.mp h ▸ hkw (n, v) mem_cons_self)
  | case3 n v r vals time unk h i hi ih =>
    exact ih (forall_mem_cons.mp hkw).2
      (forall_zip_set h1 (indexOfName_get hi) (hkw (n, v) mem_cons_self)) h2
  | case4 n v r vals time unk h hi ih => exact ih (forall_mem_cons.mp hkw).2 h1 h2

theorem defaultOf_shape (n : String) : GoodShape n (defaultOf n) := by
  fun_cases defaultOf n
  case case1 h => exact .inl ⟨by rw [beq_iff_eq.mp h]; decide, _, rfl⟩
  case case2 _ h => exact .inr (.inr ⟨beq_iff_eq.mp h, [], .inr rfl⟩)
  case case3 _ h => exact .inl ⟨fun e => h (beq_iff_eq.mpr e), _, rfl⟩

theorem mem_zip_map_self {f : String → PyVal} {names : List String} {nv : String × PyVal}
    (h : nv ∈ names.zip (names.map f)) : f nv.1 = nv.2 := by
  induction names with
  | nil => cases h
  | cons n ns ih =>
    rcases mem_cons.mp h with rfl | h
    · rfl
    · exact ih h

theorem normData_shaped (t : MType) (vals : List PyVal) (hs : ∀ nv ∈ t.valueNames.zip vals, GoodShape nv.1 nv.2) :
    ∃ vals', normData t vals = .ok vals' ∧ ∀ nv ∈ t.valueNames.zip vals', GoodShape nv.1 nv.2 := by
  fun_cases normData t vals
  case case1 d =>
    have hd : GoodShape "data" d := hs ("data", d) mem_cons_self
    rcases hd with ⟨hnd, _⟩ | ⟨hf, _⟩ | ⟨_, ns, hv⟩
    · exact absurd rfl hnd
    · exact absurd hf (by decide)
    · refine ⟨[.tuple (ns.map Item.int)], ?_, forall_mem_singleton.mpr (.inr (.inr ⟨rfl, ns, .inr rfl⟩))⟩
      rcases hv with rfl | rfl <;> rfl
  case case2 => exact ⟨vals, rfl, hs⟩

theorem construct_text_err (t : MType) (kw : List (String × PyVal)) (hkw : ∀ nv ∈ kw, GoodShape nv.1 nv.2) :
    OnlyValueError (fun _ => True) (construct t.name kw) := by
  cases h : construct t.name kw with
  | ok _ => trivial
  | error e =>
    rw [construct_of (ofName_name t)] at h
    have hsh := applyKw_shaped t kw (t.valueNames.map defaultOf) (.int 0) [] hkw
      (fun nv hm => mem_zip_map_self hm ▸ defaultOf_shape nv.1)
      (.inl ⟨by decide, 0, rfl⟩)
    generalize applyKw t kw (t.valueNames.map defaultOf) (.int 0) [] = r at h hsh
    obtain ⟨vals', hn, hs'⟩ := normData_shaped t r.1 hsh.1
    simp only [hn, ok_bind] at h
    rcases bind_eq_error.mp h with h | ⟨_, _, h⟩
    · rcases bind_eq_error.mp h with h | ⟨_, _, h⟩
      · exact checkAttr_shape_err hsh.2 h
      rcases bind_eq_error.mp h with h | ⟨_, _, h⟩
      · obtain ⟨nv, hm, hc⟩ := checkVals_error_mem h
        exact checkAttr_shape_err (hs' nv hm) hc
      · split at h <;> cases h; rfl
    · cases h

theorem parseTime_shape {s : List Char} {tv : PyVal} (h : parseTime s = some tv) : GoodShape "time" tv := by
  unfold parseTime at h
  split at h
  · cases h
    exact .inl ⟨by decide, _, rfl⟩
  · obtain ⟨x, -, rfl⟩ := Option.map_eq_some_iff.mp h
    exact .inr (.inl ⟨rfl, x, rfl⟩)

theorem parseData_shape {s : List Char} {xs : List Item} (h : parseData s = some xs) :
    ∃ ns : List Int, xs = ns.map Item.int := by
  revert h
  fun_cases parseData s
  case case2 => rintro ⟨⟩; exact ⟨[], rfl⟩
  case case3 =>
    intro h
    obtain ⟨ns, -, rfl⟩ := Option.map_eq_some_iff.mp h
    exact ⟨ns, rfl⟩
  all_goals nofun

theorem forall_mem_filter_append {α : Type} {P : α → Prop} {acc : List α} {x : α} {p : α → Bool}
    (ha : ∀ y ∈ acc, P y) (hx : P x) : ∀ y ∈ acc.filter p ++ [x], P y :=
  forall_mem_append.mpr ⟨fun y hy => ha y (mem_filter.mp hy).1, forall_mem_singleton.mpr hx⟩

theorem go_spec (t : MType) (args : List (List Char)) (acc : List (String × PyVal))
    (ha : ∀ nv ∈ acc, GoodShape nv.1 nv.2) :
    OnlyValueError (fun res => ∀ nv ∈ res, GoodShape nv.1 nv.2) (str2kw.go t args acc) := by
  fun_induction str2kw.go t args acc with
  | case1 acc => exact ha
  | case2 | case3 | case5 | case7 | case9 => rfl
  | case4 a r acc n v _ name _ htime tv hp ih =>
    exact ih (forall_mem_filter_append ha ((beq_iff_eq.mp htime : name = "time") ▸ parseTime_shape hp))
  | case6 a r acc n v _ name _ _ hdata xs hp ih =>
    obtain ⟨ns, rfl⟩ := parseData_shape hp
    exact ih (forall_mem_filter_append ha (.inr (.inr ⟨beq_iff_eq.mp hdata, ns, .inl rfl⟩)))
  | case8 a r acc n v _ name _ _ hdata k _ ih =>
    exact ih (forall_mem_filter_append ha (.inl ⟨fun h => hdata (beq_iff_eq.mpr h), k, rfl⟩))

theorem str2kw_spec (text : List Char) :
    OnlyValueError (fun p => ∃ t : MType, p.1 = t.name ∧ ∀ nv ∈ p.2, GoodShape nv.1 nv.2) (str2kw text) := by
  fun_cases str2kw text
  case case3 ty args _ t _ => exact .map ((go_spec t _ [] (by simp)).imp fun kw h => ⟨t, rfl, h⟩)
  all_goals rfl

/-- **parse_string raises ValueError — and nothing else — for any text that is not a valid
    message** (unknown type, empty text, missing '=', bad numbers, unknown / reserved / duplicated
    attribute names, out-of-range values, malformed data) -/
theorem C14_parse_errors (text : List Char) (e : Err) (h : fromStr text = .error e) : e = .ValueError := by
  have hs : OnlyValueError (fun _ => True) (fromStr text) := by
    refine (str2kw_spec text).bind ?_
    rintro ⟨_, kw⟩ ⟨t, rfl, hkw⟩
    exact construct_text_err t kw hkw
  rwa [h] at hs

/-- **parse_string_stream never stops early**: every line is skipped (blank / comment), yields
    its message, or is reported as an error with its 1-based line number; the generator is never
    aborted by an exception (the equation is `parseStream`'s own with `.error _` for `.error .ValueError`) -/
theorem C14_stream (lines : List (List Char)) : ∀ n,
    (∀ o ∈ parseStream n lines, ∀ e, o ≠ .abort e) ∧
    parseStream n lines = match lines with
      | [] => []
      | line :: rest =>
        (if (splitWs (stripComment line)).isEmpty then []
         else match fromStr (stripComment line) with
           | .ok m => [.msg m]
           | .error _ => [.error n]) ++ parseStream (n + 1) rest := by
  induction lines with
  | nil => exact fun n => ⟨forall_mem_nil _, rfl⟩
  | cons line rest ih =>
    intro n
    -- the equation first: an error that `fromStr` raises is a ValueError, so the generator goes on
    suffices heq : _ = _ from ⟨by
      rw [heq]
      refine forall_mem_append.mpr ⟨?_, (ih (n + 1)).1⟩
      split
      · exact forall_mem_nil _
      · split <;> exact forall_mem_singleton.mpr fun _ => StreamOut.noConfusion, heq⟩
    rw [parseStream]
    dsimp only
    split
    · rfl
    · cases hf : fromStr (stripComment line) with
      | ok m => rfl
      | error e => rw [C14_parse_errors _ e hf]; rfl

/-- `msg.dict()`: the attribute dictionary (type apart) -/
def toDictKw (o : MObj) : List (String × PyVal) := o.type.valueNames.zip o.vals ++ [("time", o.time)]

/-- **from_dict(m.dict()) = m** for every valid message -/
theorem C14_dict (o : MObj) (hv : o.valid = true) : construct o.type.name (toDictKw o) = .ok o := by
  obtain ⟨hl, ht, hvals, hsx⟩ := valid_iff.mp hv
  have hn : normData o.type o.vals = .ok o.vals := by
    by_cases hs : o.type = .sysex
    · obtain ⟨xs, hx⟩ := hsx hs
      rw [hs, hx]; rfl
    · exact normData_nonsysex _ hs _
  rw [← append_nil (toDictKw o), toDictKw, construct_zip o.type o.vals o.time [] hl]
  simp only [applyKw, hn, checkAll, ht, hvals, bind, Except.bind, isEmpty_nil, if_true, pure, Except.pure]

/-! Non-vacuity (tests of the model) -/
example : fromStr "note_on channel=1 note=60 time=2.5".toList =
    .ok ⟨.note_on, [.int 1, .int 60, .int 64], .flt 250⟩ := by decide +kernel

example : fromStr "note_on note=999 skip_checks=1".toList = .error .ValueError := by decide +kernel
example : msg2str ⟨.sysex, [.tuple [.int 1, .int 2]], .flt (-250)⟩ = "sysex data=(1,2) time=-2.5".toList := by
  decide +kernel

end Mido
