import MidoProofs.Lemmas.StrRt
import MidoProofs.Props.C14
/-!
  C14 — `from_str(str(m)) == m`: the keyword parser reads the printed text back, the constructor rebuilds the message.
-/
namespace Mido
open List

theorem valid_pairs (o : MObj) (hv : o.valid = true) :
    ∀ nv ∈ o.type.valueNames.zip o.vals, nv.1 ∈ o.type.valueNames ∧ Printable nv.1 nv.2 := by
  obtain ⟨-, -, hvals, hsx⟩ := valid_iff.mp hv
  intro nv hm
  have hn : nv.1 ∈ o.type.valueNames := (of_mem_zip hm).1
  refine ⟨hn, ?_⟩
  have hc := checkVals_ok_iff.mp hvals nv hm
  by_cases hd : nv.1 = "data"
  · have hty := data_only_sysex o.type (hd ▸ hn)
    obtain ⟨xs, hxs⟩ := hsx hty
    rw [hty, hxs] at hm
    obtain rfl : nv = ("data", .tuple xs) := by simpa [MType.valueNames] using hm
    obtain ⟨ns, rfl⟩ := checkDataItems_ok hc
    exact .inr ⟨rfl, ns, rfl⟩
  · exact .inl ⟨hd, checkAttr_ok_int hd (fun e => time_not_valueName _ (e ▸ hn)) hc⟩

/-- **`Message.from_str(str(m)) == m`** for every valid message: all 18 types, every attribute
    value, sysex data of any length (empty included), integer times and the float times of the
    model (hundredths).  Character-level: `str.split()`, `split('=', 1)`, `int()`, `float()`,
    the parenthesised data list. -/
theorem C14_from_str_str (o : MObj) (hv : o.valid = true) : fromStr (msg2str o) = .ok o := by
  obtain ⟨hl, ht, hvals, hsx⟩ := valid_iff.mp hv
  have hpairs := valid_pairs o hv
  have hkw : str2kw (msg2str o) = _ := str2kw_print o.type (o.type.valueNames.zip o.vals) o.time hpairs
    (by rw [map_fst_zip (Nat.le_of_eq hl.symm)]; exact valueNames_nodup _) ht
  rw [fromStr, hkw]
  show construct o.type.name _ = _
  by_cases hty : o.type = .sysex
  · -- the data tuple comes back as a list, which the constructor turns into a tuple again
    obtain ⟨xs, hxs⟩ := hsx hty
    obtain ⟨t, vals, time⟩ := o
    subst hty; subst hxs
    refine (construct_zip .sysex [.list xs] time [] rfl).trans ?_
    simp only [applyKw, normData_sysex, iterItems, Except.map, bind, Except.bind, checkAll, ht, hvals, isEmpty_nil,
      if_true, pure, Except.pure]
  · -- every value comes back as it was
    have hid : (o.type.valueNames.zip o.vals).map (fun nv => (nv.1, parsedVal nv.1 nv.2)) = o.type.valueNames.zip o.vals := by
      refine (map_congr_left fun nv hnv => ?_).trans (map_id _)
      have h4 := beq_false_of_ne fun e : nv.1 = "data" => hty (data_only_sysex _ (e ▸ (hpairs nv hnv).1))
      simp only [parsedVal, h4, Bool.false_eq_true, if_false, id]
    rw [hid]
    exact C14_dict o hv

/-- the hypothesis is met by concrete messages of every shape, and the printed text is the
    documented one -/
example : (⟨.sysex, [.tuple [.int 1, .int 127]], .flt (-250)⟩ : MObj).valid = true ∧
    (⟨.note_on, [.int 15, .int 60, .int 0], .int 480⟩ : MObj).valid = true ∧
    (⟨.clock, [], .flt 5⟩ : MObj).valid = true ∧
    msg2str ⟨.pitchwheel, [.int 3, .int (-8192)], .flt 1⟩ = "pitchwheel channel=3 pitch=-8192 time=0.01".toList := by
  decide +kernel

end Mido
