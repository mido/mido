import MidoProofs.Props.C04
import MidoProofs.Lemmas.TokPrepend
/-!
  C05 — parsing does not depend on how the stream is chunked or consumed.
-/
namespace Mido
open List

/-- feeding in two pieces is feeding the concatenation (tokenizer level) -/
theorem C05_feed_append (st : Tok) (a b : List Nat) : (st.feed a).feed b = st.feed (a ++ b) :=
  Tok.feed_append st a b

/-- any chunking of a byte stream leaves the tokenizer in the same state -/
theorem C05_chunking (st : Tok) (chunks : List (List Nat)) :
    chunks.foldl Tok.feed st = st.feed chunks.flatten := foldl_flatten.symm

/-- what `parse_all` of the bytes fed so far gives -/
def parsed (fed : List Nat) : List Msg := match parseAll fed with | .ok ms => ms | .error _ => []

theorem parseAll_parsed (bs : List Nat) : parseAll bs = .ok (parsed bs) := by
  obtain ⟨ms, hms, _⟩ := parse_total bs
  simp [parsed, hms]

/-- the abstract specification state -/
structure ASt where
  fed : List Nat := []
  k : Nat := 0                 -- number of messages retrieved so far
  iters : List Bool := []

def inByte (b : Int) : Bool := decide (0 ≤ b) && decide (b ≤ 255)

/-- the ParserQueue operations are outside the refinement (`isParserOp`): the last arm is never used -/
def astep (a : ASt) : POp → ASt × POut
  | .feed bs => ({ a with fed := a.fed ++ bs.map Int.toNat }, .none)
  | .feedByte b => ({ a with fed := a.fed ++ [b.toNat] }, .none)
  | .get => match (parsed a.fed)[a.k]? with
    | some m => ({ a with k := a.k + 1 }, .msg m)
    | none => (a, .none)
  | .pending => (a, .count ((parsed a.fed).length - a.k))
  | .iterNew => ({ a with iters := a.iters ++ [true] }, .iterId a.iters.length)
  | .iterNext i => match a.iters[i]? with
    | some true => match (parsed a.fed)[a.k]? with
      | some m => ({ a with k := a.k + 1 }, .msg m)
      | none => ({ a with iters := setAt a.iters i false }, .stop)
    | _ => (a, .stop)
  | _ => (a, .none)

/-- the operations of the Parser object with in-range bytes -/
def POp.isParserOp : POp → Bool
  | .feed bs => bs.all inByte
  | .feedByte b => inByte b
  | .get | .pending | .iterNew | .iterNext _ => true
  | _ => false

def prun (p : PState) : List POp → PState × List POut
  | [] => (p, [])
  | op :: rest => let (p1, o) := pstep p op; let (p2, os) := prun p1 rest; (p2, o :: os)

def arun (a : ASt) : List POp → ASt × List POut
  | [] => (a, [])
  | op :: rest => let (a1, o) := astep a op; let (a2, os) := arun a1 rest; (a2, o :: os)

/-- the refinement relation: the parser holds the tokenizer state after all bytes fed so far, with the tokens taken out, and in its
    queue the messages of those bytes that have not been retrieved yet (`fedok` is kept up but no proof needs it) -/
structure Sim (p : PState) (a : ASt) : Prop where
  tok : p.tok = (Tok.feed {} a.fed).clear
  queue : p.queue = (parsed a.fed).drop a.k
  kle : a.k ≤ (parsed a.fed).length
  iters : p.iters = a.iters
  fedok : ∀ b ∈ a.fed, b < 256

theorem feedChecked_valid {st : Tok} {bs : List Int} (h : bs.all inByte = true) :
    feedChecked st bs = (st.feed (bs.map Int.toNat), none) := by
  induction bs generalizing st with
  | nil => rfl
  | cons b r ih =>
    simp only [all_cons, Bool.and_eq_true] at h
    have hb : 0 ≤ b ∧ b ≤ 255 := by simpa [inByte] using h.1
    simp only [feedChecked, Tok.feedByteChecked, hb, and_self, if_true, ih h.2, map_cons]
    rfl

theorem parse_append {P X : List Nat} {T : List (List Nat)} {M : List Msg}
    (hT : ((Tok.feed {} P).feed X).out = tokenize P ++ T) (hM : decodeTokens T = .ok M) :
    parseAll (P ++ X) = .ok (parsed P ++ M) := by
  rw [parseAll, tokenize, ← Tok.feed_append, hT]
  exact decodeTokens_append (parseAll_parsed P) hM

theorem parse_extend (fed bs : List Nat) :
    ∃ newms, decodeTokens ((Tok.feed {} fed).clear.feed bs).out = .ok newms ∧
      parsed (fed ++ bs) = parsed fed ++ newms ∧
      (Tok.feed {} (fed ++ bs)).clear = ((Tok.feed {} fed).clear.feed bs).clear := by
  obtain ⟨ho, hc⟩ := Tok.feed_clear (Tok.feed {} fed) bs
  obtain ⟨ms2, hms2, _⟩ := decodeTokens_good ((Tok.feed {} fed).clear.feed bs).out
    (fun t ht => tokenize_good (fed ++ bs) t (by rw [tokenize, ← Tok.feed_append, ho]; exact mem_append_right _ ht))
  exact ⟨ms2, hms2, by rw [parsed, parse_append ho hms2], by rw [← Tok.feed_append, hc]⟩

theorem Sim.init : Sim {} {} := ⟨rfl, rfl, Nat.zero_le _, rfl, by simp⟩

theorem Sim.feed {p : PState} {a : ASt} (h : Sim p a) (bs : List Int) (hb : bs.all inByte = true) :
    (pstep p (.feed bs)).2 = .none ∧
      Sim (pstep p (.feed bs)).1 { a with fed := a.fed ++ bs.map Int.toNat } := by
  obtain ⟨newms, hdec, hpar, htok⟩ := parse_extend a.fed (bs.map Int.toNat)
  simp only [pstep, PState.feedOp, feedChecked_valid hb, PState.decodeAll, h.tok, hdec]
  refine ⟨trivial, htok.symm, ?_, ?_, h.iters, ?_⟩
  · rw [h.queue, hpar, drop_append_of_le_length h.kle]
  · simp only [hpar, length_append]; have := h.kle; omega
  · refine forall_mem_append.mpr ⟨h.fedok, forall_mem_map.mpr fun x hx => ?_⟩
    have := all_eq_true.mp hb x hx
    simp [inByte] at this; omega

theorem Sim.empty {p : PState} {a : ASt} (h : Sim p a) (hq : p.queue = []) :
    (parsed a.fed)[a.k]? = none := by
  rw [← head?_drop, ← h.queue, hq]; rfl

theorem Sim.pop {p : PState} {a : ASt} {m : Msg} {q : List Msg} (h : Sim p a) (hq : p.queue = m :: q) :
    (parsed a.fed)[a.k]? = some m ∧ Sim { p with queue := q } { a with k := a.k + 1 } := by
  have hk : (parsed a.fed)[a.k]? = some m := by rw [← head?_drop, ← h.queue, hq]; rfl
  exact ⟨hk, h.tok, by rw [← tail_drop, ← h.queue, hq]; rfl, (List.getElem?_eq_some_iff.mp hk).1, h.iters, h.fedok⟩

theorem Sim.step {p : PState} {a : ASt} (h : Sim p a) (op : POp) (hop : op.isParserOp = true) :
    (pstep p op).2 = (astep a op).2 ∧ Sim (pstep p op).1 (astep a op).1 := by
  -- `pstep`'s arms in its order: feed, feedByte, get (queue empty / not), pending, iterNew, iterNext (alive: queue empty / not;
  -- not alive), then the ParserQueue operations
  fun_cases pstep p op
  case case1 bs => exact h.feed bs hop
  case case2 b => exact h.feed [b] (by simpa [POp.isParserOp] using hop)
  case case3 hq => simp only [astep, h.empty hq]; exact ⟨trivial, h⟩
  case case4 m q hq => simp only [astep, (h.pop hq).1]; exact ⟨trivial, (h.pop hq).2⟩
  case case5 => exact ⟨by simp only [astep]; rw [h.queue, length_drop], h⟩
  case case6 => exact ⟨by simp only [astep]; rw [h.iters], h.tok, h.queue, h.kle, by simp [astep, h.iters], h.fedok⟩
  case case7 i hi hq =>
    simp only [astep, h.iters ▸ hi, h.empty hq]
    exact ⟨trivial, h.tok, h.queue, h.kle, by rw [h.iters], h.fedok⟩
  case case8 i hi m q hq => simp only [astep, h.iters ▸ hi, (h.pop hq).1]; exact ⟨trivial, (h.pop hq).2⟩
  case case9 i hi => simp only [astep, ← h.iters]; exact ⟨trivial, h⟩
  all_goals simp [POp.isParserOp] at hop

/-- Any history of feed / feed_byte / get_message / pending / iteration on a Parser gives, call
    by call, the answers of the abstract specification that only remembers the bytes fed so far
    and how many messages were retrieved: chunking and interleaving are unobservable, messages
    come out first-in first-out, `pending()` is the number still retrievable and `get_message()`
    is `None` exactly when that number is 0. -/
theorem C05_refines (ops : List POp) (h : ∀ op ∈ ops, op.isParserOp = true) :
    (prun {} ops).2 = (arun {} ops).2 := by
  suffices ∀ p a, Sim p a → (prun p ops).2 = (arun a ops).2 from this _ _ Sim.init
  induction ops with
  | nil => intros; rfl
  | cons op rest ih =>
    intro p a hs
    obtain ⟨hop, hrest⟩ := forall_mem_cons.mp h
    obtain ⟨ho, hs'⟩ := hs.step op hop
    simp only [prun, arun]
    rw [ho, ih hrest _ _ hs']

/-- the spec's `get` answers `none` exactly when `pending` is 0 -/
theorem C05_get_none_iff (a : ASt) :
    (astep a .get).2 = .none ↔ (parsed a.fed).length - a.k = 0 := by
  rw [Nat.sub_eq_zero_iff_le, ← getElem?_eq_none_iff]
  simp only [astep]
  cases (parsed a.fed)[a.k]? <;> simp

end Mido
