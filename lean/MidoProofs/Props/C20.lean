import MidoModel.Backend
import MidoProofs.Lemmas.Except
/-!
  C20 — backend selection and port-opening arguments resolve deterministically.
-/
namespace Mido
open List

/-- creating a Backend imports nothing -/
theorem C20_lazy_init (env : BEnv) (n a : Option String) (u : Bool) : (mkBackend env n a u).loaded = false := by
  simp [mkBackend]

/-- the first use imports exactly the backend's module, once; later uses import nothing -/
theorem C20_lazy (env : BEnv) (b : Backend) (h : b.loaded = false) (hn : b.name.isEmpty = false)
    (hi : env.importable.contains b.name = true) :
    ∃ b', b.load env = .ok (b', [.import_ b.name]) ∧ b'.load env = .ok (b', []) ∧ b'.name = b.name ∧ b'.api = b.api := by
  refine ⟨{ b with loaded := true }, ?_, ?_, rfl, rfl⟩
  · simp [Backend.load, h, hn, List.contains_iff_mem.mp hi]
  · simp [Backend.load]

theorem load_recs {b : Backend} {env : BEnv} {p : Backend × List Rec} (h : b.load env = .ok p) :
    ∀ r ∈ p.2, ∃ m, r = Rec.import_ m := by
  revert h
  fun_cases Backend.load b env <;> intro h <;> cases h
  · simp
  · exact fun r hr => ⟨_, mem_singleton.mp hr⟩

/-! Every entry point unfolds to `b.load env >>= fun p => pure (g p)`, which `bind_eq_ok` reads backwards. -/

/-- an explicit port name beats the environment and the backend default, whatever `use_environ` -/
theorem C20_name_precedence (env : BEnv) (b : Backend) (x : String) (ca : Option (Option String))
    (b' : Backend) (recs : List Rec) :
    (b.openInput env (some x) ca = .ok (b', recs) → .ctor .Input (some x) (b.addApi ca) ∈ recs) ∧
    (b.openOutput env (some x) ca = .ok (b', recs) → .ctor .Output (some x) (b.addApi ca) ∈ recs) := by
  constructor <;> intro h <;> obtain ⟨p, -, hp⟩ := bind_eq_ok.mp h <;> cases hp <;> simp

/-- without an explicit name: the environment variable when `use_environ` is on, else the
    backend's default (None) -/
theorem C20_env_default (env : BEnv) (b : Backend) (ca : Option (Option String)) (b' : Backend) (recs : List Rec)
    (h : b.openInput env none ca = .ok (b', recs)) :
    .ctor .Input (if b.useEnviron then env.defInput else none) (b.addApi ca) ∈ recs := by
  obtain ⟨p, -, hp⟩ := bind_eq_ok.mp h; cases hp; simp [Backend.envVar]

/-- an explicit (non-empty) `api` beats the API in the backend name, and the module imported is
    the part of the name before the first '/' in every case -/
theorem C20_api_precedence (env : BEnv) (n : Option String) (a : String) (ha : a.isEmpty = false) (u : Bool) :
    (mkBackend env n (some a) u).api = some a ∧
    (mkBackend env n (some a) u).name = (mkBackend env n none u).name := by
  simp [mkBackend, truthy, ha]

def namesSpec (env : BEnv) : Which → List String
  | .inputs => (env.devices.filter (·.2.1)).map (·.1)
  | .outputs => (env.devices.filter (·.2.2)).map (·.1)
  | .ioports => ((env.devices.filter (·.2.1)).map (·.1)).filter
      (fun n => ((env.devices.filter (·.2.2)).map (·.1)).contains n)

theorem getNames_ok {b : Backend} {env : BEnv} {w ca b' recs names} :
    b.getNames env w ca = .ok (b', recs, names) → ∃ imp, b.load env = .ok (b', imp) ∧
      recs = imp ++ (if env.hasGetDevices then [.getDevices (b.addApi ca)] else []) ∧
      (env.hasGetDevices = true → names = namesSpec env w) := by
  intro h
  obtain ⟨p, hl, hp⟩ := bind_eq_ok.mp h
  cases hp
  refine ⟨_, hl, ?_, fun hg => ?_⟩
  · cases env.hasGetDevices <;> rfl
  · rw [hg]; cases w <;> rfl

/-- name listings derive from the module's device list: inputs / outputs in device order, I/O
    names = input names that are also output names, in input order -/
theorem C20_names (env : BEnv) (b : Backend) (w : Which) (ca : Option (Option String))
    (b' : Backend) (recs : List Rec) (names : List String) (hg : env.hasGetDevices = true)
    (h : b.getNames env w ca = .ok (b', recs, names)) : names = namesSpec env w :=
  let ⟨_, _, _, hn⟩ := getNames_ok h
  hn hg

/-- the effective name of `open_ioport` -/
def effIoName (b : Backend) (env : BEnv) : Option String → Option String
  | some x => some x
  | none => truthy (b.envVar env.defIoport)

/-- what `open_ioport` must construct, as a plain function of the environment -/
def ioportSpec (b : Backend) (env : BEnv) (n : Option String) (ca : Option (Option String)) : List Rec :=
  if env.hasIOPort then [.ctor .IOPort (effIoName b env n) (b.addApi ca)]
  else match truthy (effIoName b env n) with
    | some x => [.ctor .Input (some x) (b.addApi ca), .ctor .Output (some x) (b.addApi ca)]
    | none => [.ctor .Input (b.envVar env.defInput) (b.addApi ca), .ctor .Output (b.envVar env.defOutput) (b.addApi ca)]

theorem openIoport_ok {b : Backend} {env : BEnv} {n ca b' recs} :
    b.openIoport env n ca = .ok (b', recs) →
      ∃ imp, b.load env = .ok (b', imp) ∧ recs = imp ++ ioportSpec b env n ca := by
  intro h
  have h' : (b.load env >>= fun p => pure (p.1, p.2 ++ ioportSpec b env n ca)) = .ok (b', recs) := by
    rw [← h]; unfold Backend.openIoport ioportSpec
    cases env.hasIOPort
    · cases n <;> simp only [effIoName]
      · cases truthy (truthy (b.envVar env.defIoport)) <;> rfl
      · next x => cases truthy (some x) <;> rfl
    · cases n <;> rfl
  obtain ⟨p, hl, hp⟩ := bind_eq_ok.mp h'
  cases hp; exact ⟨_, hl, rfl⟩

/-- `open_ioport`: the module's native IOPort when present, otherwise an Input/Output pair whose
    names come from the given name, else MIDO_DEFAULT_IOPORT, else MIDO_DEFAULT_INPUT/OUTPUT; and
    nothing else is constructed -/
theorem C20_ioport (env : BEnv) (b : Backend) (n : Option String) (ca : Option (Option String))
    (b' : Backend) (recs : List Rec) (h : b.openIoport env n ca = .ok (b', recs)) :
    ∃ imports, recs = imports ++ ioportSpec b env n ca ∧ ∀ r ∈ imports, ∃ m, r = Rec.import_ m :=
  let ⟨imp, hl, hr⟩ := openIoport_ok h
  ⟨imp, hr, load_recs hl⟩

/-- the API suffix reaches every constructor and every device query of every entry point, unless
    the call passed its own `api` -/
theorem C20_api_reaches_all (env : BEnv) (b : Backend) (n : Option String) (b' : Backend) (recs : List Rec) :
    (b.openInput env n none = .ok (b', recs) ∨ b.openOutput env n none = .ok (b', recs) ∨
     b.openIoport env n none = .ok (b', recs) ∨ ∃ w names, b.getNames env w none = .ok (b', recs, names)) →
    ∀ r ∈ recs, match r with
      | .ctor _ _ a => a = truthy b.api
      | .getDevices a => a = truthy b.api
      | .import_ _ => True := by
  intro h r hr
  -- `r` is an import of `load` or one of the calls that follow, which carry `addApi none`
  have key : ∀ {p calls}, b.load env = .ok p → recs = p.2 ++ calls →
      (∃ m, r = Rec.import_ m) ∨ r ∈ calls := by
    intro p calls hl he
    rw [he] at hr
    exact (mem_append.mp hr).imp_left (load_recs hl r)
  rcases h with h | h | h | ⟨w, names, h⟩
  · obtain ⟨⟨_, imp⟩, hl, hp⟩ := bind_eq_ok.mp h
    cases hp
    rcases key hl rfl with ⟨m, rfl⟩ | hc
    · trivial
    · cases mem_singleton.mp hc; rfl
  · obtain ⟨⟨_, imp⟩, hl, hp⟩ := bind_eq_ok.mp h
    cases hp
    rcases key hl rfl with ⟨m, rfl⟩ | hc
    · trivial
    · cases mem_singleton.mp hc; rfl
  · obtain ⟨imp, hl, he⟩ := openIoport_ok h
    rcases key hl he with ⟨m, rfl⟩ | hc
    · trivial
    · unfold ioportSpec at hc
      split at hc
      · cases mem_singleton.mp hc; rfl
      · split at hc <;> simp at hc <;> rcases hc with rfl | rfl <;> rfl
  · obtain ⟨imp, hl, he, -⟩ := getNames_ok h
    rcases key hl he with ⟨m, rfl⟩ | hc
    · trivial
    · split at hc
      · cases mem_singleton.mp hc; rfl
      · cases hc

end Mido
