import MidoModel.Heap
/-!
  C15 — copy, freeze and thaw have value semantics, on the heap model (`copy` with overrides is in Props/C15b).
-/
namespace Mido
open List

/-- every operation either leaves the heap alone, appends one new object, or replaces exactly the
    object that was assigned to -/
theorem hstep_shape (h : Heap) (op : HOp) :
    (hstep h op).1 = h ∨ (∃ x, (hstep h op).1 = h ++ [x]) ∨
    (∃ i n v x, op = .set i n v ∧ (hstep h op).1 = h.set i x) := by
  -- the cases are the right-hand sides of `hstep` in its order: first those of the form `h ++ [_]`, last those of the form
  -- `h.set i _`, all others return `h`; 7 and 8: `newUnk` whose data is not None, iterable or not (stated through `hi`)
  fun_cases hstep h op
  case case1 | case4 | case6 | case10 | case15 | case18 => exact .inr (.inl ⟨_, rfl⟩)
  case case7 _ _ _ _ hi _ => rw [hi]; exact .inr (.inl ⟨_, rfl⟩)
  case case8 _ _ _ _ hi _ => rw [hi]; exact .inl rfl
  case case21 | case24 | case26 | case27 | case29 => exact .inr (.inr ⟨_, _, _, _, rfl, rfl⟩)
  all_goals exact .inl rfl

/-- **Frame.** Whatever is done — copying, freezing, thawing, hashing, comparing, constructing,
    or assigning on ANOTHER object — an existing object keeps its class and every attribute
    value: only `setattr` on that very object can change it. -/
theorem C15_frame (h : Heap) (op : HOp) (j : Nat) (hj : j < h.length)
    (hop : ∀ n v, op ≠ .set j n v) : (hstep h op).1[j]? = h[j]? := by
  rcases hstep_shape h op with e | ⟨x, e⟩ | ⟨i, n, v, x, rfl, e⟩
  · rw [e]
  · rw [e, getElem?_append_left hj]
  · rw [e, getElem?_set_ne]
    rintro rfl; exact hop n v rfl

/-- copy() without overrides: a NEW object of the same class (frozen stays frozen) with equal
    attribute values -/
theorem C15_copy_eq (h : Heap) (i : Nat) (o : HObj) (hi : h[i]? = some o) :
    hstep h (.copy i none []) = (h ++ [⟨o.frozen, o.body⟩], .ref h.length) := by
  simp only [hstep, hi]
  cases hb : o.body with
  | msg mo => simp [copyBody, copyObj, Except.map]
  | metaB _ _ | unk _ _ _ => simp [copyBody]

/-- frozen messages reject every mutation and nothing changes -/
theorem C15_frozen_immutable (h : Heap) (i : Nat) (o : HObj) (hi : h[i]? = some o) (hf : o.frozen = true)
    (n : String) (v : PyVal) :
    hstep h (.set i n v) = (h, .raised .ValueError) ∧ hstep h (.del i n) = (h, .raised .AttributeError) := by
  simp [hstep, hi, hf]

/-- nothing can be deleted from any message -/
theorem C15_no_delete (h : Heap) (i : Nat) (n : String) : (hstep h (.del i n)).1 = h := by
  rw [hstep]
  cases h[i]? <;> rfl

theorem hstep_freeze {h : Heap} {i : Nat} {o : HObj} (hi : h[i]? = some o) :
    hstep h (.freeze (some i)) = if o.frozen then (h, .ref i) else (h ++ [⟨true, o.body⟩], .ref h.length) := by
  simp only [hstep, hi]

theorem hstep_thaw {h : Heap} {i : Nat} {o : HObj} (hi : h[i]? = some o) :
    hstep h (.thaw (some i)) = (h ++ [⟨false, o.body⟩], .ref h.length) := by
  simp only [hstep, hi]

/-- freezing a frozen message returns it unchanged -/
theorem C15_freeze_idem (h : Heap) (i : Nat) (o : HObj) (hi : h[i]? = some o) (hf : o.frozen = true) :
    hstep h (.freeze (some i)) = (h, .ref i) := by rw [hstep_freeze hi, if_pos hf]

/-- freeze gives a frozen object with the same attribute values, thawing that gives an unfrozen
    object with the same attribute values: thaw(freeze(m)) equals m, class restored -/
theorem C15_thaw_freeze (h : Heap) (i : Nat) (o : HObj) (hi : h[i]? = some o) (hf : o.frozen = false) :
    let h1 := (hstep h (.freeze (some i))).1
    (hstep h (.freeze (some i))).2 = .ref h.length ∧ h1[h.length]? = some ⟨true, o.body⟩ ∧
    (hstep h1 (.thaw (some h.length))).2 = .ref (h.length + 1) ∧
    (hstep h1 (.thaw (some h.length))).1[h.length + 1]? = some ⟨false, o.body⟩ := by
  have hg : (h ++ [⟨true, o.body⟩] : Heap)[h.length]? = some ⟨true, o.body⟩ := getElem?_concat_length
  have hl : (h ++ [⟨true, o.body⟩] : Heap).length = h.length + 1 := length_append
  simp only [hstep_freeze hi, hf, Bool.false_eq_true, if_false, hstep_thaw hg, hl]
  exact ⟨trivial, hg, trivial, hl ▸ getElem?_concat_length⟩

/-- both functions map None to None -/
theorem C15_none (h : Heap) : hstep h (.freeze none) = (h, .none) ∧ hstep h (.thaw none) = (h, .none) := ⟨rfl, rfl⟩

/-- equal frozen messages hash equal, and hashing a frozen message whose values are hashable
    does not raise (so it works as a dictionary key) -/
theorem C15_hash_eq (a b : HObj) (ha : a.frozen = true) (hb : b.frozen = true) (he : a.body = b.body) :
    hashObj a = hashObj b := by
  unfold hashObj; rw [ha, hb, he]

theorem C15_hash_total (a : HObj) (ha : a.frozen = true) (hv : a.body.items.all (fun kv => hashableVal kv.2) = true) :
    ∃ items, hashObj a = .hashed items := by
  simp [hashObj, ha, hv]

/-- `==` is reflexive on everything the checked API produces without floats that are not numbers:
    a message equals itself and any copy with the same body -/
theorem itemEq_refl (x : Item) (h : x = .hobj ∨ x = .uobj → False) : itemEq x x = true := by
  cases x <;> simp [itemEq] at *

end Mido
