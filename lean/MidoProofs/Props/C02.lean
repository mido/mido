import MidoProofs.Lemmas.Codec
/-!
  C02 — from_bytes accepts exactly the well-formed single-message encodings.
-/
namespace Mido

/-- one direction; the converse comes out of `C02_decision` -/
theorem wellFormed_goodTok (xs : List Int) (h : wellFormed xs = true) :
    ∃ t, GoodTok t ∧ xs = t.map Int.ofNat := by
  revert h
  fun_cases wellFormed xs <;> intro h
  case case3 ds hl _ =>
    obtain ⟨ys, rfl⟩ := List.getLast?_eq_some_iff.mp hl
    rw [List.dropLast_concat] at h
    have tl := toNat_list h
    exact ⟨[0xF0] ++ ys.map Int.toNat ++ [0xF7], .inr ⟨_, rfl, tl.2⟩, by simp [tl.1]⟩
  case case5 s ds hs h0 n hn =>
    simp only [Bool.and_eq_true, beq_iff_eq] at h
    have tl := toNat_list h.2
    refine ⟨s.toNat :: ds.map Int.toNat, .inl ⟨_, _, rfl, by omega, tl.2, by simp [hn, h.1]⟩, ?_⟩
    simp [tl.1]; omega
  all_goals cases h

theorem decodeInts_ok_wf (xs : List Int) (m : Msg) (h : decodeInts xs = .ok m) :
    wellFormed xs = true := by
  cases xs with
  | nil => cases h
  | cons s ds =>
    rw [decodeInts_cons] at h
    obtain ⟨hs, h⟩ := guard_eq_ok h
    replace h := (guard_eq_ok h).2
    rw [wellFormed, if_neg hs]
    by_cases h0 : s.toNat = 0xF0
    · -- sysex
      rw [if_pos h0] at h
      rw [if_pos (show s = 0xF0 by omega)]
      cases he : ds.getLast? with
      | none => rw [he] at h; cases h
      | some e =>
        simp only [he] at h
        split at h
        · next h7 =>
          subst h7
          obtain ⟨d, hd, -⟩ := map_eq_ok.mp h
          rw [checkData_ints] at hd
          split at hd
          · next hall => exact hall
          · cases hd
        · cases h
    · -- fixed length
      rw [if_neg h0] at h
      rw [if_neg (show ¬ s = 0xF0 by omega)]
      obtain ⟨d, hd, h⟩ := bind_eq_ok.mp h
      rw [checkData_ints] at hd
      split at hd
      · next hall =>
        cases hd
        rw [← Decidable.not_not.mp (guard_eq_ok h).1]; simp [hall]
      · cases hd

def Item.isInt : Item → Bool | .int _ => true | _ => false

theorem checkData_err {l : List Item} {e : Err} (h : checkData l = .error e) :
    e = .ValueError ∨ (e = .TypeError ∧ ∃ x ∈ l, x.isInt = false) := by
  induction l with
  | nil => cases h
  | cons x r ih =>
    cases x with
    | int n =>
      rw [checkData] at h
      split at h
      · exact (ih (map_eq_error.mp h)).imp_right fun ⟨h1, y, hy, hy2⟩ => ⟨h1, y, List.mem_cons_of_mem _ hy, hy2⟩
      · cases h; exact .inl rfl
    | _ => cases h; exact .inr ⟨rfl, _, List.mem_cons_self, rfl⟩

theorem checkData_bounds {l : List Item} {d : List Nat} (h : checkData l = .ok d) :
    d.all (· ≤ 127) = true ∧ d.length = l.length := by
  induction l generalizing d with
  | nil => cases h; exact ⟨rfl, rfl⟩
  | cons x r ih =>
    cases x with
    | int n =>
      rw [checkData] at h
      split at h
      · next hn =>
        obtain ⟨v, hr, rfl⟩ := map_eq_ok.mp h
        have := ih hr
        simp only [List.all_cons, this.1, Bool.and_true, decide_eq_true_eq, List.length_cons, this.2]
        exact ⟨by omega, trivial⟩
      · cases h
    | _ => cases h

theorem buildMsg_err {s : Nat} {b : Bool} {d : List Nat} {e : Err}
    (hd : d.all (· ≤ 127) = true) (hl : specLen s = some (d.length + 1))
    (h : buildMsg s b d = .error e) : e = .TypeError ∧ b = false := by
  obtain ⟨m, hm, _⟩ := buildMsg_sound hd hl
  cases b with
  | true => rw [hm] at h; cases h
  | false =>
    by_cases hs : s < 0xF0
    · simp [buildMsg, hs] at h; exact ⟨h.symm, rfl⟩
    · have : buildMsg s false d = buildMsg s true d := by simp [buildMsg, hs]
      rw [this, hm] at h; cases h

theorem decode_num_err {n : Int} (isInt : Bool) {data : List Item} {e : Err}
    (h : decode ((if isInt then Item.int n else Item.flt n) :: data) = .error e) :
    e = .ValueError ∨ (e = .TypeError ∧ ((∃ x ∈ data, x.isInt = false) ∨ isInt = false)) := by
  rw [decode_num] at h
  split at h
  · cases h; exact .inl rfl
  split at h
  · cases h; exact .inl rfl
  split at h
  · -- sysex
    split at h
    · cases h; exact .inl rfl
    split at h
    · exact (checkData_err (map_eq_error.mp h)).imp_right
        fun ⟨h1, y, hy, hy2⟩ => ⟨h1, .inl ⟨y, List.dropLast_subset _ hy, hy2⟩⟩
    · cases h; exact .inl rfl
  · -- fixed length: the data, their number, then `buildMsg` refuses a float status
    rcases bind_eq_error.mp h with hc | ⟨d, hc, h⟩
    · exact (checkData_err hc).imp_right fun ⟨h1, h2⟩ => ⟨h1, .inl h2⟩
    · split at h
      · cases h; exact .inl rfl
      next hlen =>
        obtain ⟨h1, h2⟩ := buildMsg_err (checkData_bounds hc).1 (Decidable.not_not.mp hlen).symm h
        exact .inr ⟨h1, .inr h2⟩

/-- Whatever Python objects the sequence holds, the only failures are `ValueError` and — only
    when some item is not an integer — `TypeError`; never `IndexError`, `KeyError`, … -/
theorem C02_errors (xs : List Item) (e : Err) (h : decode xs = .error e) :
    e = .ValueError ∨ (e = .TypeError ∧ ∃ x ∈ xs, x.isInt = false) := by
  cases xs with
  | nil => cases h; exact .inl rfl
  | cons st data =>
    cases st
    case uobj => cases h; exact .inr ⟨rfl, _, List.mem_cons_self, rfl⟩
    case hobj => cases h; exact .inl rfl
    case int n =>
      refine (decode_num_err true h).imp_right fun ⟨h1, h2⟩ => ⟨h1, ?_⟩
      rcases h2 with ⟨x, hx, hx2⟩ | h2
      · exact ⟨x, List.mem_cons_of_mem _ hx, hx2⟩
      · cases h2
    case flt n =>
      exact (decode_num_err false h).imp_right fun ⟨h1, _⟩ => ⟨h1, _, List.mem_cons_self, rfl⟩

/-- The decision made by `from_bytes` on any list of integers, in one statement: the input is
    well formed and a valid message re-encoding to exactly the input is returned, or it is not
    and `ValueError` is raised. -/
theorem C02_decision (xs : List Int) :
    (wellFormed xs = true ∧
        ∃ m, decodeInts xs = .ok m ∧ m.Valid ∧ (encode m).map Int.ofNat = xs) ∨
    (wellFormed xs = false ∧ decodeInts xs = .error .ValueError) := by
  cases hw : wellFormed xs with
  | true =>
    obtain ⟨t, ht, rfl⟩ := wellFormed_goodTok xs hw
    rw [decodeInts_ofNat]
    obtain ⟨m, hm, hv, he⟩ := ht.decodes
    exact .inl ⟨rfl, m, hm, hv, by rw [he]⟩
  | false =>
    refine .inr ⟨rfl, ?_⟩
    cases hd : decodeInts xs with
    | ok m => rw [decodeInts_ok_wf xs m hd] at hw; cases hw
    | error e =>
      rcases C02_errors _ e hd with rfl | ⟨_, x, hx, hx2⟩
      · rfl
      · obtain ⟨y, _, rfl⟩ := List.mem_map.mp hx; cases hx2

/-- A returned message is valid and its bytes reproduce the input exactly. -/
theorem C02_sound (xs : List Int) (m : Msg) (h : decodeInts xs = .ok m) :
    m.Valid ∧ (encode m).map Int.ofNat = xs := by
  rcases C02_decision xs with ⟨_, m', hm, hv, he⟩ | ⟨_, hr⟩
  · rw [h] at hm; cases hm; exact ⟨hv, he⟩
  · rw [h] at hr; cases hr

theorem decodeNats_sound {xs : List Nat} {m : Msg} (h : decodeNats xs = .ok m) :
    m.Valid ∧ encode m = xs := by
  obtain ⟨hv, he⟩ := C02_sound _ m (decodeInts_ofNat xs ▸ h)
  exact ⟨hv, (List.map_inj_right fun _ _ => Int.ofNat.inj).mp he⟩

/-- Every well-formed encoding is accepted. -/
theorem C02_complete (xs : List Int) (h : wellFormed xs = true) : ∃ m, decodeInts xs = .ok m := by
  rcases C02_decision xs with ⟨_, m, hm, _, _⟩ | ⟨hw, _⟩
  · exact ⟨m, hm⟩
  · rw [h] at hw; cases hw

/-- Anything else — any length, any magnitude, negative numbers included — is `ValueError`. -/
theorem C02_reject (xs : List Int) (h : wellFormed xs = false) :
    decodeInts xs = .error .ValueError := by
  rcases C02_decision xs with ⟨hw, _⟩ | ⟨_, hr⟩
  · rw [h] at hw; cases hw
  · exact hr

/-! Non-vacuity / negative witnesses (tests of the model). -/
example : wellFormed [0x90, 60, 64] = true ∧ wellFormed [0xE0, 1] = false ∧
    wellFormed [0xF2, 1, 2, 3] = false ∧ wellFormed [0xF0, 1] = false ∧
    wellFormed [0xF4] = false ∧ wellFormed [-1] = false ∧ wellFormed [0x90, 128, 0] = false := by
  decide

example : decode [.flt 0x90, .int 1, .int 2] = .error .TypeError := by rfl
example : decode [.flt 0xF8] = .ok (.sys1 .clock) := by rfl

end Mido
