import MidoModel.PortsConc
/-!
  C10 — ports deliver each message exactly once and in order under concurrent use.  `Pc` in `BaseInput.receive(block=False)`:
  `pAcq … pRelMiss` = enter the first `with self._lock:`, `if self._messages`, `popleft()`, leave with / without;
  `p2…` = the same in the loop body; `sAcq, sApp, sRel` = `BaseOutput.send` (an EchoPort's `append`).
-/
namespace Mido.Conc
open List

structure Inv (w : W) : Prop where
  nofault : w.fault = false
  mutex : ∀ t, inCS (w.th t).pc = true ↔ w.lock = some t
  popok : ∀ t, ((w.th t).pc = .pPop ∨ (w.th t).pc = .p2Pop) → w.q ≠ []
  fifo : w.recv ++ w.q = w.sent

theorem upd_same (f : Tid → Th) (t : Tid) (x : Th) : upd f t x t = x := by simp [upd]
theorem upd_other {f : Tid → Th} {t u : Tid} {x : Th} (h : u ≠ t) : upd f t x u = f u := by simp [upd, h]

theorem next_notCS (th : Th) : inCS (next th).pc = false ∧ (next th).pc ≠ .pPop ∧ (next th).pc ≠ .p2Pop := by
  unfold next
  cases th.prog with
  | nil => simp [inCS]
  | cons c r => cases c <;> simp [inCS]

/-- `hq`: only the lock holder shortens the queue, so no other thread is waiting to pop -/
theorem Inv.update {w : W} (h : Inv w) (t : Tid) (x : Th) (l : Option Tid) (q s r : List Nat)
    (hx : inCS x.pc = true ↔ l = some t) (hl : ∀ u, u ≠ t → (l = some u ↔ w.lock = some u))
    (hp : (x.pc = .pPop ∨ x.pc = .p2Pop) → q ≠ []) (hq : w.q ≠ [] → q ≠ [] ∨ w.lock = some t) (hf : r ++ q = s) :
    Inv { w with lock := l, q := q, sent := s, recv := r, th := upd w.th t x } := by
  refine ⟨h.nofault, fun u => ?_, fun u => ?_, hf⟩ <;> by_cases hu : u = t
  · subst hu; simpa only [upd_same] using hx
  · simpa only [upd_other hu, hl u hu] using h.mutex u
  · subst hu; simpa only [upd_same] using hp
  · simp only [upd_other hu]
    intro hc
    refine (hq (h.popok u hc)).resolve_right fun ht => hu ?_
    have : inCS (w.th u).pc = true := by rcases hc with hc | hc <;> rw [hc] <;> rfl
    exact Option.some.inj (((h.mutex u).mp this).symm.trans ht)

theorem Inv.acquire {w : W} (h : Inv w) (t : Tid) {x : Th} (hl : w.lock = none) (hx : inCS x.pc = true)
    (hp : x.pc ≠ .pPop ∧ x.pc ≠ .p2Pop) : Inv { w with lock := some t, th := upd w.th t x } :=
  h.update t x (some t) w.q w.sent w.recv (by simp [hx]) (fun u hu => by simp [hl, Ne.symm hu])
    (fun hc => by simp [hp] at hc) .inl h.fifo

theorem Inv.release {w : W} (h : Inv w) (t : Tid) {x : Th} (hl : w.lock = some t) (hx : inCS x.pc = false)
    (hp : x.pc ≠ .pPop ∧ x.pc ≠ .p2Pop) : Inv { w with lock := none, th := upd w.th t x } :=
  h.update t x none w.q w.sent w.recv (by simp [hx]) (fun u hu => by simp [hl, Ne.symm hu])
    (fun hc => by simp [hp] at hc) .inl h.fifo

theorem Inv.inside {w : W} (h : Inv w) (t : Tid) {x : Th} {q s r : List Nat} (hl : w.lock = some t) (hx : inCS x.pc = true)
    (hp : (x.pc = .pPop ∨ x.pc = .p2Pop) → q ≠ []) (hf : r ++ q = s) :
    Inv { w with q := q, sent := s, recv := r, th := upd w.th t x } :=
  h.update t x w.lock q s r (by simp [hx, hl]) (fun _ _ => Iff.rfl) hp (fun _ => .inr hl) hf

/-- **One step of any thread preserves the invariant.** -/
theorem step_inv (w : W) (t : Tid) (h : Inv w) : Inv (step w t) := by
  have hm := h.mutex t
  unfold step
  cases hpc : (w.th t).pc <;> simp only [hpc, inCS, Bool.false_eq_true, false_iff, true_iff] at hm ⊢
  case start =>
    exact h.update t _ w.lock w.q w.sent w.recv (by simp [next_notCS, hm]) (fun _ _ => Iff.rfl) (fun hc => by simp [next_notCS] at hc)
      .inl h.fifo
  case done => exact h
  case pAcq | p2Acq | sAcq =>
    split
    · next hl => exact h.acquire t hl rfl (by simp)
    · exact h
  case pTest | p2Test =>
    split
    · next hq => exact h.inside t hm rfl (fun _ => hq) h.fifo
    · exact h.inside t hm rfl (fun hc => by simp at hc) h.fifo
  case pPop | p2Pop =>
    have hq := h.popok t (by simp [hpc])
    split
    · next hq' => exact absurd hq' hq
    · next m r hq' => exact h.inside t hm rfl (fun hc => by simp at hc) (by rw [← h.fifo, hq']; simp)
  case pRelHit | p2RelHit | p2RelMiss | sRel => exact h.release t hm (next_notCS _).1 (next_notCS _).2
  case pRelMiss => exact h.release t hm rfl (by simp)
  case sApp m => exact h.inside t hm rfl (fun hc => by simp at hc) (by rw [← h.fifo]; simp)

theorem run_inv (w : W) (σ : List Tid) (h : Inv w) : Inv (run w σ) := by
  induction σ generalizing w with
  | nil => exact h
  | cons t σ ih => exact ih _ (step_inv w t h)

theorem init_inv (progs : List (List Call)) (q : List Nat) : Inv (init progs q) := by
  refine ⟨rfl, ?_, ?_, by simp [init]⟩
  · intro t; simp only [init]; cases progs[t]? <;> simp [inCS]
  · intro t; simp only [init]; cases progs[t]? <;> simp

/-- **No call raises**: under EVERY interleaving of ANY number of threads running ANY programs of
    send / poll calls, `popleft` never hits an empty deque (no IndexError) -/
theorem C10_no_fault (progs : List (List Call)) (q : List Nat) (σ : List Tid) :
    (run (init progs q) σ).fault = false := (run_inv _ σ (init_inv progs q)).nofault

/-- **Mutual exclusion**: at most one thread is inside a critical section, and it holds the lock -/
theorem C10_mutex (progs : List (List Call)) (q : List Nat) (σ : List Tid) (t u : Tid)
    (ht : inCS ((run (init progs q) σ).th t).pc = true) (hu : inCS ((run (init progs q) σ).th u).pc = true) : t = u := by
  have h := run_inv _ σ (init_inv progs q)
  exact Option.some.inj (((h.mutex t).mp ht).symm.trans ((h.mutex u).mp hu))

/-- **At most once, in order, nothing lost**: at every moment of every interleaving the messages
    received so far, followed by those still queued, are exactly the messages sent so far in the
    order their sends took effect; so no message is received twice or out of order, and when the
    queue is empty everything sent has been received exactly once. -/
theorem C10_fifo (progs : List (List Call)) (q : List Nat) (σ : List Tid) :
    let w := run (init progs q) σ
    w.recv ++ w.q = w.sent ∧ (w.q = [] → w.recv = w.sent) := by
  have h := run_inv _ σ (init_inv progs q)
  exact ⟨h.fifo, fun hq => by simpa [hq] using h.fifo⟩

/-- messages of one sender keep their order: the received list is a prefix of the sent list, and
    any two messages of it appear in the order in which they were sent -/
theorem C10_sender_order (progs : List (List Call)) (q : List Nat) (σ : List Tid) :
    (run (init progs q) σ).recv <+: (run (init progs q) σ).sent :=
  ⟨_, (run_inv _ σ (init_inv progs q)).fifo⟩

end Mido.Conc
