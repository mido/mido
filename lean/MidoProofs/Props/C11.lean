import MidoProofs.Lemmas.PortSeq
/-!
  C11 — port lifecycle: idempotent close, drain then stop, prompt receives (iteration over a self-closing device: Props/C11b.lean).
-/
namespace Mido
open List

def closeCount (p : Port) : Nat := p.log.count .closed

/-- how many of `n` `_send` calls succeed before the device fails -/
def sentCount (p : Port) (n : Nat) : Nat :=
  match p.budget with
  | none => n
  | some b => min b n

theorem resetSends_spec (ids : List Nat) (p : Port) (hk : p.kind = .dev) :
    Port.resetSends ids p =
      { p with log := p.log ++ (ids.take (sentCount p ids.length)).map LogEv.sent,
               budget := p.budget.map (· - sentCount p ids.length) } := by
  fun_induction Port.resetSends ids p with
  | case1 p => cases p with | mk k c q a sc l sl b => cases b <;> simp [sentCount]
  | case2 i r p hf =>
    have hb := ((sendFails_iff p).mp hf).2
    cases p with | mk k c q a sc l sl b => cases hb; simp [sentCount]
  | case3 i r p hf ih =>
    have h0 : p.budget ≠ some 0 := fun h => hf ((sendFails_iff p).mpr ⟨hk, h⟩)
    rw [ih ((rawSend_same p i).kind.trans hk), rawSend_dev p hk]
    cases hb : p.budget with
    | none => simp [sentCount, hb]
    | some b =>
      cases b with
      | zero => exact absurd hb h0
      | succ b => simp [sentCount, hb, Nat.add_sub_add_right, Nat.succ_min_succ]

theorem resetIds_length : resetIds.length = 32 := by simp [resetIds]

/-- `close()` is idempotent -/
theorem C11_close_idem (p : Port) : p.close.close = p.close := by
  unfold Port.close
  by_cases h : p.closed = true <;> simp [h]

/-- closing an open device port releases the device exactly once, after sending the 32 reset
    messages — once — when autoreset is set; if the device stops accepting messages part-way
    (every further `_send` raises OSError) the messages it still accepted are sent, in order, and
    the device is released all the same -/
theorem C11_close_log (p : Port) (hk : p.kind = .dev) (ho : p.closed = false) :
    p.close.closed = true ∧
    p.close.log = p.log ++ (if p.autoreset then (resetIds.take (sentCount p 32)).map LogEv.sent else []) ++ [.closed] := by
  unfold Port.close
  by_cases ha : p.autoreset = true
  · simp [ho, ha, resetSends_spec resetIds p hk, resetIds_length]
  · simp [ho, ha]

/-- on a healthy device all 32 reset messages are sent -/
theorem C11_close_log_healthy (p : Port) (hk : p.kind = .dev) (ho : p.closed = false) (hb : p.budget = none) :
    p.close.log = p.log ++ (if p.autoreset then resetIds.map LogEv.sent else []) ++ [.closed] := by
  rw [(C11_close_log p hk ho).2]
  simp only [sentCount, hb]
  rw [← resetIds_length, take_length]

/-- whatever the device does to `_send`, the release reaches it exactly once per close of an open port -/
theorem C11_release_once (p : Port) (hk : p.kind = .dev) (ho : p.closed = false) :
    closeCount p.close = closeCount p + 1 ∧ closeCount p.close.close = closeCount p + 1 := by
  rw [C11_close_idem]
  have hs (l : List Nat) : count LogEv.closed (l.map .sent) = 0 :=
    count_eq_zero.mpr fun hm => by obtain ⟨x, _, hx⟩ := mem_map.mp hm; cases hx
  simp only [closeCount, (C11_close_log p hk ho).2, count_append]
  cases p.autoreset <;> simp [hs, -map_take]

/-- after close, `send` raises ValueError and nothing reaches the device -/
theorem C11_send_after_close (p : Port) (h : p.closed = true) (id : Nat) :
    p.send id = (p, .error .ValueError) := by simp [Port.send, h]

theorem receive_closed (p : Port) (h : p.closed = true) (block : Bool) :
    (p.receive block).1.log = p.log ∧ (p.receive block).1.closed = true := by
  fun_cases Port.receive p block
  · exact ⟨rfl, h⟩
  · exact ⟨rfl, h⟩
  · next hc => exact absurd h hc

theorem pendingFuel_queue (p : Port) : p.queue.length < p.pendingFuel := by
  unfold Port.pendingFuel; omega

theorem iter_drain (p : Port) (h : p.closed = true) (fuel : Nat) (acc : List Nat) (hf : p.queue.length < fuel) :
    Port.iterAll fuel p acc = ({ p with queue := [] }, acc ++ p.queue, .normal) ∧
    Port.iterPending fuel p acc = ({ p with queue := [] }, acc ++ p.queue, .normal) := by
  induction fuel generalizing p acc with
  | zero => exact absurd hf (Nat.not_lt_zero _)
  | succ n ih =>
    rw [Port.iterAll, Port.iterPending, Port.poll]
    cases hq : p.queue with
    | nil =>
      rw [receive_nil_closed hq h, receive_nil_closed hq h]
      obtain ⟨k, c, q, a, sc, l, sl, b⟩ := p
      cases hq; cases h; simp
    | cons m q =>
      have := ih { p with queue := q } h (acc ++ [m]) (by simpa [hq] using hf)
      simp only [receive_cons hq, this, append_assoc, singleton_append, and_self]

/-- **Once closed, nothing reaches the device any more**, whatever is called (the device is
    released exactly once and the log is frozen) -/
theorem C11_closed_frozen (p : Port) (h : p.closed = true) (op : LOp) :
    (lstep p op).1.log = p.log ∧ (lstep p op).1.closed = true := by
  have hd := iter_drain p h _ [] (pendingFuel_queue p)
  cases op with
  | send id => simp [lstep, Port.send, h]
  | receive => exact receive_closed p h true
  | poll => exact receive_closed p h false
  | iterAll =>
    simp only [lstep, Port.iter]
    cases p.kind with
    | dev => rw [hd.1]; exact ⟨rfl, h⟩
    | echo => rw [hd.2]; exact ⟨rfl, h⟩
  | iterPending => simp only [lstep]; rw [hd.2]; exact ⟨rfl, h⟩
  | close | withExit => simp [lstep, Port.close, h]
  | reset => simp [lstep, Port.userReset, h]

theorem C11_closed_history (ops : List LOp) (p : Port) (h : p.closed = true) :
    (lrun p ops).log = p.log ∧ (lrun p ops).closed = true := by
  induction ops generalizing p with
  | nil => exact ⟨rfl, h⟩
  | cons op rest ih =>
    have := C11_closed_frozen p h op
    have r := ih (lstep p op).1 this.2
    exact ⟨r.1.trans this.1, r.2⟩

/-- **Drain then stop.** Iterating over a closed port hands out exactly the messages it had
    already taken in, in order, and ends without an exception; afterwards `poll()` is None. -/
theorem C11_drain (p : Port) (h : p.closed = true) : ∀ (fuel : Nat) (acc : List Nat), p.queue.length < fuel →
    ∃ p', Port.iterAll fuel p acc = (p', acc ++ p.queue, .normal) ∧ p'.queue = [] ∧ p'.closed = true ∧
      (p'.poll).2 = .none := by
  intro fuel acc hf
  refine ⟨{ p with queue := [] }, (iter_drain p h fuel acc hf).1, rfl, h, ?_⟩
  rw [Port.poll, receive_nil_closed (p := { p with queue := [] }) rfl h]
  rfl

/-- a non-blocking receive never waits -/
theorem C11_poll_never_sleeps (p : Port) : (p.poll).1.sleeps = p.sleeps ∧ (p.poll).2 ≠ .hang := by
  unfold Port.poll
  fun_cases Port.receive p false
  · exact ⟨rfl, by simp⟩
  · exact ⟨rfl, by simp⟩
  · rw [Port.fuel, recvLoop_succ]
    cases p.envStep.queue <;> simp [(envStep_frame p).1]

theorem recvLoop_empty_round (p : Port) (f : Nat) {S : List (List Nat × Bool)} (hk : p.kind = .dev)
    (ho : p.closed = false) (hq : p.queue = []) (hs : p.script = ([], false) :: S) :
    Port.recvLoop true (f + 1) p = Port.recvLoop true f { p with script := S, sleeps := p.sleeps + 1 } := by
  rw [recvLoop_succ, envStep_cons p hk hs]
  simp [hq, ho]

theorem recvLoop_arrival (p : Port) (f : Nat) {m : Nat} {arr : List Nat} {c : Bool} {S : List (List Nat × Bool)}
    (hk : p.kind = .dev) (hq : p.queue = []) (hs : p.script = (m :: arr, c) :: S) :
    (Port.recvLoop true (f + 1) p).2 = .msg m ∧ (Port.recvLoop true (f + 1) p).1.sleeps = p.sleeps := by
  have hqs : p.envStep.queue = m :: arr := by
    rw [envStep_cons p hk hs]
    cases c
    · simp [hq]
    · simpa [hq] using (close_keeps { p with queue := p.queue ++ m :: arr, script := S }).2.2.2 hk
  rw [recvLoop_succ]
  simp [hqs, (envStep_frame p).1]

/-- **Prompt blocking receive.** If the first message arrives in environment round `r`, a blocking
    receive returns it after exactly `r` sleep rounds (no additional wait). -/
theorem C11_block_prompt (r : Nat) : ∀ (p : Port) (m : Nat) (arr : List Nat) (c : Bool) (rest : List (List Nat × Bool))
    (fuel : Nat), p.kind = .dev → p.closed = false → p.queue = [] →
    p.script = replicate r ([], false) ++ (m :: arr, c) :: rest → r < fuel →
    (Port.recvLoop true fuel p).2 = .msg m ∧ (Port.recvLoop true fuel p).1.sleeps = p.sleeps + r := by
  intro p m arr c rest fuel hk ho hq hs hf
  induction fuel generalizing r p with
  | zero => exact absurd hf (Nat.not_lt_zero _)
  | succ f ih =>
    cases r with
    | zero => exact recvLoop_arrival p f hk hq hs
    | succ r =>
      rw [recvLoop_empty_round p f hk ho hq (hs.trans (by rw [replicate_succ, cons_append]))]
      have := ih r { p with script := replicate r ([], false) ++ (m :: arr, c) :: rest, sleeps := p.sleeps + 1 }
        hk ho hq rfl (Nat.lt_of_succ_lt_succ hf)
      exact ⟨this.1, this.2.trans (Nat.add_right_comm p.sleeps 1 r)⟩

theorem Multi.envStep_sleeps (m : Multi) : m.envStep.sleeps = m.sleeps := by simp [Multi.envStep]

/-- MultiPort: a non-blocking receive never waits and never hangs -/
theorem C11_multi_nonblocking (m : Multi) : (m.receive false).2 ≠ .hang ∧ (m.receive false).1.sleeps = m.sleeps := by
  fun_cases Multi.receive m false
  · simp
  · simp
  · simp only [Multi.fuel, Multi.recvLoop]
    cases m.envStep.queue <;> simp [m.envStep_sleeps]

theorem iterPending_acc {n : Nat} {c : Port} (acc : List Nat) : ∃ more, (Port.iterPending n c acc).2.1 = acc ++ more := by
  fun_induction Port.iterPending n c acc with
  | case2 _ _ _ _ y _ ih => obtain ⟨more, h⟩ := ih; exact ⟨y :: more, by simp [h]⟩
  | _ => exact ⟨[], by simp⟩

/-- **MultiPort delivers promptly.** If the first child is open and already holds a message, a
    blocking `MultiPort.receive()` on an empty MultiPort returns a message at once (no sleep
    round). -/
theorem C11_multi_prompt (m : Multi) (c : Port) (cs : List Port) (x : Nat) (q : List Nat)
    (hm : m.queue = []) (ho : m.closed = false) (hc : m.children = c :: cs) (hco : c.closed = false)
    (hcq : c.queue = x :: q) :
    (m.receive true).2 = .msg x ∧ (m.receive true).1.sleeps = m.sleeps := by
  obtain ⟨more, hip⟩ : ∃ more, (Port.iterPending c.pendingFuel c []).2.1 = x :: more := by
    rw [show c.pendingFuel = c.queue.length + (c.script.map (·.1.length)).sum + c.script.length + 1 + 1 from rfl,
      Port.iterPending, Port.poll, receive_cons hcq]
    exact iterPending_acc [x]
  have hq : m.envStep.queue = x :: (more ++ (pollChildren cs).2) := by
    simp [Multi.envStep, hc, pollChildren, hco, hm, hip]
  simp [Multi.receive, hm, ho, Multi.fuel, Multi.recvLoop, hq, m.envStep_sleeps]

end Mido
