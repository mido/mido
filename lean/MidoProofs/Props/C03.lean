import MidoProofs.Lemmas.ObjModel
/-!
  C03 — no invalid message state is reachable through the checked API.
-/
namespace Mido
open List

theorem construct_valid (ty : String) (kw : List (String × PyVal)) (o : MObj) (h : construct ty kw = .ok o) :
    o.valid = true := by
  cases ht : MType.ofName ty with
  | none => rw [construct, ht] at h; cases h
  | some t =>
    rw [construct_of ht] at h
    obtain ⟨vals', hn, h⟩ := bind_eq_ok.mp h
    obtain ⟨hc, h⟩ := bind_ok.mp h
    cases h
    obtain ⟨h1, h2, _⟩ := checkAll_ok hc
    exact normData_valid (by rw [applyKw_length, length_map]) hn h1 h2

theorem setAttr_valid (o o' : MObj) (name : String) (v : PyVal) (hv : o.valid = true)
    (h : setAttr o name v = .ok o') : o'.valid = true ∧ o'.type = o.type := by
  obtain ⟨hl, ht, hvals, hsx⟩ := valid_iff.mp hv
  revert h
  fun_cases setAttr o name v
  case case1 | case3 => nofun
  case case2 =>
    intro h
    obtain ⟨hc, h⟩ := bind_ok.mp h
    cases h
    exact ⟨valid_iff.mpr ⟨hl, hc, hvals, hsx⟩, rfl⟩
  rename_i i hidx
  intro h
  obtain ⟨hc, h2⟩ := bind_ok.mp h
  -- the stored value passes the check of its name, and is a tuple if the name is `data`
  have hst : ∃ v', o' = { o with vals := o.vals.set i v' } ∧ checkAttr name v' = .ok () ∧
      (name = "data" → ∃ xs, v' = .tuple xs) := by
    split at h2
    · obtain rfl : name = "data" := beq_iff_eq.mp ‹_›
      obtain ⟨v', hv', ⟨⟩⟩ := bind_eq_ok.mp h2
      obtain ⟨xs, hi, rfl⟩ := map_eq_ok.mp hv'
      exact ⟨_, rfl, checkAttr_data_tuple hi ▸ hc, fun _ => ⟨xs, rfl⟩⟩
    · cases h2; exact ⟨v, rfl, hc, fun e => absurd (beq_iff_eq.mpr e) ‹_›⟩
  obtain ⟨v', rfl, hst⟩ := hst
  refine ⟨valid_iff.mpr ⟨by simp [hl], ht, ?_, fun hs => ?_⟩, rfl⟩
  · exact checkVals_ok_iff.mpr
      (forall_zip_set (P := fun n v => checkAttr n v = .ok ()) (checkVals_ok_iff.mp hvals)
        (indexOfName_get hidx) hst.1)
  obtain ⟨ys, hys⟩ := hsx hs
  have hi := indexOfName_sysex name ▸ hs ▸ hidx
  split at hi
  · cases hi
    obtain ⟨xs, rfl⟩ := hst.2 (‹"data" = name›).symm
    exact ⟨xs, by simp [hys]⟩
  · cases hi

theorem copyObj_valid (o o' : MObj) (tov : Option String) (kw : List (String × PyVal)) (hv : o.valid = true)
    (h : copyObj o tov kw = .ok o') : o'.valid = true ∧ o'.type = o.type := by
  have core : ∀ o'', copyObj.copyCore o kw = .ok o'' → o''.valid = true ∧ o''.type = o.type := by
    intro o'' hc
    rw [copyCore_eq] at hc
    obtain ⟨kw', _, hc⟩ := bind_eq_ok.mp hc
    obtain ⟨hch, hc⟩ := bind_ok.mp hc
    obtain ⟨vals', hn, hc⟩ := bind_eq_ok.mp hc
    cases hc
    obtain ⟨h1, h2, _⟩ := checkAll_ok hch
    have hlen := (applyKw_length o.type kw' o.vals o.time []).trans (valid_iff.mp hv).1
    -- `copy` checked the values before normalising them: the normalised ones pass the same checks
    exact ⟨normData_valid hlen hn h1 (checkVals_normData hlen hn ▸ h2), rfl⟩
  revert h
  fun_cases copyObj o tov kw
  case case1 => rintro ⟨⟩; exact ⟨hv, rfl⟩
  case case2 => nofun
  all_goals exact core o'

theorem dataIadd_valid (o o' : MObj) (v : PyVal) (hv : o.valid = true) (h : dataIadd o v = .ok o') :
    o'.valid = true ∧ o'.type = o.type := by
  unfold dataIadd at h
  split at h
  · obtain ⟨xs, _, h⟩ := bind_eq_ok.mp h
    obtain ⟨_, h⟩ := bind_ok.mp h
    exact setAttr_valid o o' _ _ hv h
  · cases h

/-- what an operation computes; `mstep` is this followed by one `match` (`mstep_eq`) -/
def MOp.act (op : MOp) (cur : Option MObj) : Except Err MObj :=
  match op, cur with
  | .construct ty kw, _ => Mido.construct ty kw
  | _, none => .error .Other
  | .copy tov kw, some o => copyObj o tov kw
  | .set n v, some o => setAttr o n v
  | .del _, some _ => .error .AttributeError
  | .iadd v, some o => dataIadd o v

theorem mstep_eq (cur : Option MObj) (op : MOp) :
    mstep cur op = match op.act cur with | .ok o' => (some o', none) | .error e => (cur, some e) := by
  cases op <;> cases cur <;> rfl

theorem act_valid {cur : Option MObj} {op : MOp} {o' : MObj} (hv : ∀ o, cur = some o → o.valid = true)
    (h : op.act cur = .ok o') :
    o'.valid = true ∧ ((∃ ty kw, op = .construct ty kw) ∨ ∃ o, cur = some o ∧ o'.type = o.type) := by
  cases op with
  | construct ty kw => exact ⟨construct_valid ty kw o' (by cases cur <;> exact h), .inl ⟨ty, kw, rfl⟩⟩
  | del n => cases cur <;> cases h
  | copy tov kw => cases cur with
    | none => cases h
    | some o => exact (copyObj_valid o o' tov kw (hv o rfl) h).imp_right fun ht => .inr ⟨o, rfl, ht⟩
  | set n v => cases cur with
    | none => cases h
    | some o => exact (setAttr_valid o o' n v (hv o rfl) h).imp_right fun ht => .inr ⟨o, rfl, ht⟩
  | iadd v => cases cur with
    | none => cases h
    | some o => exact (dataIadd_valid o o' v (hv o rfl) h).imp_right fun ht => .inr ⟨o, rfl, ht⟩

theorem mstep_spec (cur : Option MObj) (op : MOp) (hv : ∀ o, cur = some o → o.valid = true) :
    ∀ o', (mstep cur op).1 = some o' → o'.valid = true := by
  rw [mstep_eq]
  cases ha : op.act cur with
  | error e => exact hv
  | ok o' => rintro _ ⟨⟩; exact (act_valid hv ha).1

/-- the object after a history of operations (`none` until the first successful construction) -/
def mrun (cur : Option MObj) : List MOp → Option MObj
  | [] => cur
  | op :: rest => mrun (mstep cur op).1 rest

theorem mrun_valid (ops : List MOp) : ∀ cur, (∀ o, cur = some o → o.valid = true) →
    ∀ o, mrun cur ops = some o → o.valid = true := by
  induction ops with
  | nil => exact fun _ hv => hv
  | cons op rest ih => exact fun cur hv => ih _ (mstep_spec cur op hv)

/-- **Invariant.** After ANY sequence of constructions, copies with overrides, attribute
    assignments, deletions and `data +=` — accepted or rejected — the object is valid. -/
theorem C03_invariant (ops : List MOp) : ∀ o, mrun none ops = some o → o.valid = true :=
  mrun_valid ops none fun _ h => nomatch h

/-- **Atomicity.** A rejected operation leaves the message unchanged. -/
theorem C03_atomic (cur : Option MObj) (op : MOp) (e : Err) (h : (mstep cur op).2 = some e) :
    (mstep cur op).1 = cur := by
  revert h
  rw [mstep_eq]
  cases op.act cur with
  | error e => exact fun _ => rfl
  | ok o' => nofun

/-- **Shape.** Copying, assigning and `+=` never change the type or the number of attributes;
    deleting is always refused (`C03_delete_refused`). -/
theorem C03_shape (o o' : MObj) (op : MOp) (hv : o.valid = true)
    (hop : match op with | .construct .. => False | _ => True)
    (h : (mstep (some o) op).1 = some o') : o'.type = o.type ∧ o'.vals.length = o.vals.length := by
  revert h
  rw [mstep_eq]
  cases ha : op.act (some o) with
  | error e => rintro ⟨⟩; exact ⟨rfl, rfl⟩
  | ok o2 =>
    rintro ⟨⟩
    obtain ⟨hv2, ⟨ty, kw, rfl⟩ | ⟨o1, ⟨⟩, ht⟩⟩ := act_valid (by rintro _ ⟨⟩; exact hv) ha
    · exact hop.elim
    · exact ⟨ht, by rw [(valid_iff.mp hv2).1, (valid_iff.mp hv).1, ht]⟩

theorem C03_delete_refused (o : MObj) (n : String) : mstep (some o) (.del n) = (some o, some .AttributeError) := rfl

/-! Non-vacuity (tests of the model) -/
example : (construct "sysex" [("data", .list [.int 1, .int 127])]).toOption.map MObj.valid = some true := by decide +kernel
example : construct "note_on" [("note", .int 128)] = .error .ValueError := by decide +kernel
example : construct "sysex" [("data", .int 5)] = .error .TypeError := by decide +kernel

end Mido
