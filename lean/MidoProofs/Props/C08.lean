import MidoProofs.Lemmas.SmfEnc
/-!
  C08 — file bytes conform to the Standard MIDI File format (the relation `EncFile`, Spec/SmfEnc.lean) in both directions.
-/
namespace Mido
open List

/-- **Padded VLQs are read.** Any standard-conformant spelling of a number, however much it is
    padded with 0x80 bytes, is read back as that number. -/
theorem C08_read_any_vlq (d : List Nat) (acc n : Nat) (h : VlqDenotes d acc n) (rest : List Nat) :
    readVlqAcc acc (d ++ rest) = .ok (n, rest) := readVlqAcc_denotes h rest

/-- padding with 0x80 does not change the value -/
theorem C08_padding (d : List Nat) (n : Nat) (h : VlqDenotes d 0 n) : VlqDenotes (0x80 :: d) 0 n :=
  .cont 0 0x80 d n (by decide) (by decide) h

/-- what `save` writes is the minimal spelling -/
theorem C08_written_vlq_minimal (n : Nat) :
    VlqShape (encVlq n) ∧ ∃ b r, encVlq n = b :: r ∧ (r ≠ [] → b ≠ 0x80) :=
  ⟨encVlq_shape n, encVlq_minimal n⟩

/-- clipping does not touch valid data bytes -/
theorem C08_clip_valid (d : List Nat) (h : d.all (· ≤ 127) = true) : d.map clipByte = d :=
  map_clip_id d h

/-- clipping produces valid data bytes, and only changes bytes above 127 (to 127) -/
theorem C08_clip_range (b : Nat) : clipByte b ≤ 127 ∧ (b ≤ 127 → clipByte b = b) ∧ (127 < b → clipByte b = 127) := by
  refine ⟨clipByte_le b, clipByte_id b, fun h => ?_⟩
  rw [clipByte, if_neg (by omega)]

/-- what `fix_end_of_track` returns ends with one end_of_track message -/
theorem fixEot_last (tr : List TEvent) : ∀ (acc : PyVal) (fixed : List TEvent),
    fixEotEvents acc tr = .ok fixed → ∃ init t, fixed = init ++ [eotEvent t] := by
  induction tr with
  | nil => intro acc fixed h; cases h; exact ⟨[], acc, rfl⟩
  | cons x xs ih =>
    intro acc fixed h
    rcases fixEot_cons_ok h with ⟨_, acc', h'⟩ | ⟨_, t, r, hr, rfl⟩
    · exact ih acc' fixed h'
    · obtain ⟨init, t', rfl⟩ := ih _ r hr
      exact ⟨_ :: init, t', rfl⟩

/-- **Read direction.**  Every standard-conformant encoding of a file — `EncFile`: any legal use
    of running status, variable-length quantities padded at will (delta times, sysex and meta
    lengths), a header chunk of 6 or more bytes — loads to exactly that event list, with clip on
    or off.  (Any charset, utf-8 included; payloads within the reader's 1 000 000-byte limit, which is
    part of `EncEv`.) -/
theorem C08_read_any (cs : Charset) (f : LFile) (bytes : List Nat) (h : EncFile cs f bytes)
    (clip : Bool) : readFile cs clip bytes = .ok f :=
  readFile_enc cs clip f bytes h

/-- on a conformant file `clip=True` and `clip=False` give the same result -/
theorem C08_clip_same_on_valid (cs : Charset) (f : LFile) (bytes : List Nat)
    (h : EncFile cs f bytes) : readFile cs true bytes = readFile cs false bytes := by
  rw [C08_read_any cs f bytes h true, C08_read_any cs f bytes h false]

/-- **clip=True never changes what clip=False accepts** — for every byte string, conformant or not. -/
theorem C08_clip_keeps_strict (cs : Charset) (bytes : List Nat) (f : LFile) (h : readFile cs false bytes = .ok f) :
    readFile cs true bytes = .ok f := (readFile_rel cs bytes).ok_strict h

/-- **The only difference.**  If `clip=True` loads a byte string, `clip=False` loads the very same file from it or
    stops with the error raised for a data byte above 127 (`OSError` in a channel message, `ValueError` in sysex data);
    it never fails otherwise and never returns a different file. -/
theorem C08_clip_only_difference (cs : Charset) (bytes : List Nat) (f : LFile) (h : readFile cs true bytes = .ok f) :
    readFile cs false bytes = .ok f ∨ ∃ e, (e = .OSError ∨ e = .ValueError) ∧ readFile cs false bytes = .error e :=
  (readFile_rel cs bytes).imp_left (·.trans h)

/-- **What clipping does to a message**: reading with `clip=True` is reading with `clip=False` after every data byte the
    message consumes (the peeked running-status byte included) has been replaced by `min(byte, 127)`. -/
theorem C08_clip_message (st : Nat) (peek bs : List Nat) (L : Nat)
    (hL : (match specLen st with | some n => n | none => 0) = L) :
    readChannelish true st peek bs =
      readChannelish false st (peek.map clipByte) ((bs.take (L - 1 - peek.length)).map clipByte ++ bs.drop (L - 1 - peek.length)) := by
  rw [readChannelish_eq _ _ _ _ L hL, readChannelish_eq _ _ _ _ L hL, length_map]
  generalize L - 1 - peek.length = n
  have hlen : ((bs.take n).map clipByte ++ bs.drop n).length = bs.length := by
    rw [length_append, length_map, ← length_append, take_append_drop]
  rw [hlen]
  refine ite_congr rfl (fun _ => rfl) fun _ => ite_congr rfl (fun _ => rfl) fun hl => ?_
  have hn : ((bs.take n).map clipByte).length = n := by
    rw [length_map, length_take, Nat.min_eq_left (Nat.le_of_not_lt hl)]
  rw [take_left' hn, drop_left' hn, ← map_append]
  simp only [Bool.not_true, Bool.false_and, Bool.false_eq_true, if_false, if_true, Bool.not_false, Bool.true_and,
    (any_gt_iff _).mpr (map_clip_all _)]

/-- the same for sysex: identical framing; payload bytes above 127 become 127 with clip, are an error without -/
theorem C08_clip_sysex (clip : Bool) (bs : List Nat) :
    readSysex clip bs = (do
      let (d, r) ← sysexPayload bs
      if clip then pure (.msg (.sysex (d.map clipByte)), r)
      else if d.all (· ≤ 127) then pure (.msg (.sysex d), r) else throw .ValueError) := by
  unfold readSysex sysexPayload
  rw [bind_assoc]
  refine congrArg (readVlq bs >>= ·) (funext fun ⟨len, r1⟩ => ?_)
  rw [bind_assoc]
  refine congrArg (readBytes len r1 >>= ·) (funext fun ⟨data, r2⟩ => ?_)
  cases clip with
  | false => rfl
  | true => simp only [if_true, map_clip_all, pure, Except.pure, bind, Except.bind]

/-- a file whose note has velocity byte 200: clip gives 127, strict raises; after it a sysex with payload byte 0x90 -/
def highBytes : List Nat :=
  [77, 84, 104, 100, 0, 0, 0, 6, 0, 0, 0, 1, 0, 96,
   77, 84, 114, 107, 0, 0, 0, 14, 0, 0x90, 60, 200, 0, 0xf0, 3, 1, 0x90, 0xf7, 0, 255, 47, 0]

example : readFile .latin1 true highBytes = .ok ⟨0, 96, [[⟨.msg (.chan3 .note_on 0 60 127), 0⟩,
      ⟨.msg (.sysex [1, 127]), 0⟩, ⟨.metaEv ⟨.end_of_track, []⟩, 0⟩]]⟩ ∧
    readFile .latin1 false highBytes = .error .OSError := by decide +kernel

/-- **Write direction.**  What `save` writes for a storable file is a member of the encoding
    relation for exactly the in-memory header and `fix_end_of_track` of every track: exact chunk
    lengths, running status only where the relation allows it (directly after a channel message
    of equal status, never across a meta or sysex event), sysex as F0 length data F7. -/
theorem C08_write_conforms (cs : Charset) (f : MFile) (hs : StorableFile cs f) (bytes : List Nat)
    (hw : writeFile cs f = .ok bytes) :
    EncFile cs ⟨f.type, f.tpb, f.tracks.map normTrack⟩ bytes :=
  writeFile_enc cs f hs.events hs.chunk bytes hw

/-- the two directions compose to the round trip, clip on or off; `C07_roundtrip` is this composition -/
theorem C08_roundtrip_via_spec (cs : Charset) (f : MFile) (hs : StorableFile cs f) (bytes : List Nat)
    (hw : writeFile cs f = .ok bytes) (clip : Bool) :
    readFile cs clip bytes = .ok ⟨f.type, f.tpb, f.tracks.map normTrack⟩ :=
  C08_read_any cs _ bytes (C08_write_conforms cs f hs bytes hw) clip

/-- the writer's spelling of a quantity denotes the number -/
theorem C08_writer_vlq (n : Nat) : VlqDenotes (encVlq n) 0 n := denotes_encVlq n

/-- A hand-made alternative encoding of a small file: header chunk of 8 bytes, delta times padded
    with 0x80, a padded meta length, running status used for the second note and the status byte
    repeated for the third.  It is a member of the relation, so `C08_read_any` applies; the
    reader's result is also computed directly. -/
def altBytes : List Nat :=
  [77, 84, 104, 100, 0, 0, 0, 8, 0, 0, 0, 1, 0, 96, 7, 7,
   77, 84, 114, 107, 0, 0, 0, 20,
   0x80, 0, 0x90, 60, 64,
   0x81, 0, 62, 0,
   0, 0x90, 64, 1,
   0x80, 0x80, 5, 0xff, 0x2f, 0x80, 0]

def altFile : LFile := ⟨0, 96, [[⟨.msg (.chan3 .note_on 0 60 64), 0⟩, ⟨.msg (.chan3 .note_on 0 62 0), 128⟩,
  ⟨.msg (.chan3 .note_on 0 64 1), 0⟩, ⟨.metaEv ⟨.end_of_track, []⟩, 5⟩]]⟩

example : EncFile .latin1 altFile altBytes ∧ readFile .latin1 false altBytes = .ok altFile ∧
    readFile .latin1 true altBytes = .ok altFile := by
  refine ⟨?_, by decide +kernel, by decide +kernel⟩
  have hbody : EncBody .latin1 none altFile.tracks[0]
      ([0x80, 0] ++ [0x90, 60, 64] ++ ([0x81, 0] ++ [62, 0] ++ ([0] ++ [0x90, 64, 1] ++
        ([0x80, 0x80, 5] ++ [0xff, 0x2f, 0x80, 0] ++ [])))) := by
    refine .cons none _ [0x80, 0] [0x90, 60, 64] _ _ ?_ ?_ ?_
    · exact C08_padding [0] 0 (.last 0 0 (by decide))
    · exact .full (.chan3 .note_on 0 60 64) (by decide) (by decide) (fun _ h => nomatch h)
    refine .cons _ _ [0x81, 0] [62, 0] _ _ ?_ ?_ ?_
    · exact .cont 0 0x81 [0] 128 (by decide) (by decide) (.last _ 0 (by decide))
    · exact .running (.chan3 .note_on 0 62 0) (by decide) (by decide) (by decide)
    refine .cons _ _ [0] [0x90, 64, 1] _ _ ?_ ?_ ?_
    · exact .last 0 0 (by decide)
    · exact .full (.chan3 .note_on 0 64 1) (by decide) (by decide) (fun _ h => nomatch h)
    refine .cons _ _ [0x80, 0x80, 5] [0xff, 0x2f, 0x80, 0] _ _ ?_ ?_ (.nil _)
    · exact C08_padding _ 5 (C08_padding [5] 5 (.last 0 5 (by decide)))
    · exact .metaEv ⟨.end_of_track, []⟩ [] [0x80, 0] (by decide) (by decide) (by decide)
        (C08_padding [0] 0 (.last 0 0 (by decide))) (by decide)
  have htrack := EncTrack.mk (cs := .latin1) _ _ hbody (by decide)
  have htracks := EncTracks.cons _ [] _ [] htrack .nil
  exact EncFile.mk (cs := .latin1) altFile 0 0 0 1 0 96 [7, 7] _ ⟨by decide, by decide, by decide⟩
    ⟨by decide, by decide, by decide⟩ ⟨by decide, by decide, by decide⟩ (by decide) htracks

end Mido
