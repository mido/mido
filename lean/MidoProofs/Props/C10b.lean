import MidoModel.LockDisc
/-!
  C10 — the locking discipline.  The machine carries out only events that respect it, any other just raises `viol`: so the
  theorems hold for EVERY trace.  That its run is the real ports' run is what `viol = false` on a replayed trace says
  (checked on the explored executions, not proved here).
-/
namespace Mido.Disc
open List

structure Inv (s : S) : Prop where
  nofault : s.fault = false
  armedOk : ∀ t q, s.armed t q = true → owns s t (s.guard q) = true ∧ s.q q ≠ []
  fifo : ∀ q, s.recv q ++ s.q q = s.sent q

theorem owns_iff (s : S) (t : Tid) (l : Nat) : owns s t l = true ↔ ∃ d, s.owner l = some (t, d) := by
  unfold owns
  cases s.owner l with
  | none => simp
  | some p => simp [Prod.ext_iff]

/-- **Exclusive ownership**: in every state two threads never own the same lock. -/
theorem C10_disc_exclusive (s : S) (t u : Tid) (l : Nat) (ht : owns s t l = true) (hu : owns s u l = true) : t = u := by
  obtain ⟨d, hd⟩ := (owns_iff s t l).mp ht
  obtain ⟨e, he⟩ := (owns_iff s u l).mp hu
  rw [hd] at he; cases he; rfl

theorem setF_same {α} (f : Nat → α) (i : Nat) (x : α) : setF f i x i = x := by simp [setF]
theorem setF_other {α} {f : Nat → α} {i j : Nat} {x : α} (h : j ≠ i) : setF f i x j = f j := by simp [setF, h]
theorem setF_self {α} (f : Nat → α) (i : Nat) : setF f i (f i) = f := by
  funext j; unfold setF; split <;> simp_all
theorem setA_self (f : Tid → Nat → Bool) (t : Tid) (q : Nat) : setA f t q (f t q) = f := by
  funext u p; unfold setA; split <;> simp_all

theorem Inv.locks {s : S} (h : Inv s) {o : Nat → Option (Tid × Nat)} {a : Tid → Nat → Bool}
    (ha : ∀ t q, a t q = true → s.armed t q = true ∧ (owns s t (s.guard q) = true → ∃ d, o (s.guard q) = some (t, d))) :
    Inv { s with owner := o, armed := a } :=
  ⟨h.nofault, fun t q hq =>
    have ⟨h1, h2⟩ := ha t q hq
    ⟨(owns_iff _ t _).mpr (h2 (h.armedOk t q h1).1), (h.armedOk t q h1).2⟩, h.fifo⟩

theorem Inv.reown {s : S} (h : Inv s) (t : Tid) (l d : Nat) (hl : ∀ w e, s.owner l = some (w, e) → w = t) :
    Inv { s with owner := setF s.owner l (some (t, d)) } :=
  h.locks fun u q ha => ⟨ha, fun hu => by
    obtain ⟨e, he⟩ := (owns_iff s u _).mp hu
    by_cases hll : s.guard q = l
    · exact ⟨d, by rw [hll, setF_same, hl u e (hll ▸ he)]⟩
    · exact ⟨e, by rw [setF_other hll, he]⟩⟩

/-- an access by the owner of the guard: no other thread has a flag on `q` (it would own the guard too) -/
theorem Inv.access {s : S} (h : Inv s) (t : Tid) (q : Nat) (ho : owns s t (s.guard q) = true) (x : Bool) (c r e : List Nat)
    (hx : x = true → c ≠ []) (hf : r ++ c = e) :
    Inv { s with q := setF s.q q c, recv := setF s.recv q r, sent := setF s.sent q e, armed := setA s.armed t q x } := by
  refine ⟨h.nofault, fun u p ha => ?_, fun p => ?_⟩
  · by_cases hp : p = q
    · subst hp
      by_cases hu : u = t
      · subst hu
        simp only [setA, and_self, if_true] at ha
        exact ⟨ho, by simp only [setF_same]; exact hx ha⟩
      · simp only [setA, hu, false_and, if_false] at ha
        exact absurd (C10_disc_exclusive s u t _ (h.armedOk u p ha).1 ho) hu
    · simp only [setA, hp, and_false, if_false] at ha
      exact ⟨(h.armedOk u p ha).1, by simp only [setF_other hp]; exact (h.armedOk u p ha).2⟩
  · by_cases hp : p = q
    · subst hp; simp only [setF_same]; exact hf
    · simp only [setF_other hp]; exact h.fifo p

/-- **One event of any thread preserves the invariant** — whether or not it respects the discipline. -/
theorem step_inv (s : S) (t : Tid) (e : Ev) (h : Inv s) : Inv (step s t e) := by
  have viol : Inv { s with viol := true } := ⟨h.nofault, h.armedOk, h.fifo⟩
  -- the branches of `step` from top to bottom: acquire (free, re-entered, held by another), release (last level, an inner
  -- level, two violations), test (allowed or not), pop (empty, non-empty, not allowed), append (allowed or not)
  fun_cases step s t e
  · next l ho => exact h.reown t l 1 (by simp [ho])
  · next l d ho => exact h.reown t l _ (by simp [ho])
  · exact viol
  · next l d hd ho =>
    -- `t` leaves `l` for good: the flags that stay have another guard
    have hown : owns s t l = true := (owns_iff s t l).mpr ⟨d, ho⟩
    refine h.locks fun u q ha => ?_
    by_cases hc : u = t ∧ s.guard q = l
    · rw [if_pos hc] at ha; cases ha
    · rw [if_neg hc] at ha
      refine ⟨ha, fun hu => ?_⟩
      have hgl : s.guard q ≠ l := fun hgl => hc ⟨C10_disc_exclusive s u t l (hgl ▸ hu) hown, hgl⟩
      rw [setF_other hgl]
      exact (owns_iff s u _).mp hu
  · next l d hd ho => exact h.reown t l _ (by simp [ho])
  · exact viol
  · exact viol
  · next q ho =>
    have := h.access t q ho (!(s.q q).isEmpty) (s.q q) (s.recv q) (s.sent q) (by simp) (h.fifo q)
    rwa [setF_self, setF_self, setF_self] at this
  · exact viol
  · next q hc hq =>
    simp only [Bool.and_eq_true] at hc
    exact absurd hq (h.armedOk t q hc.2).2
  · next q hc m r hq =>
    simp only [Bool.and_eq_true] at hc
    have := h.access t q hc.1 false r (s.recv q ++ [m]) (s.sent q) (by simp) (by rw [← h.fifo q, hq]; simp)
    rwa [setF_self] at this
  · exact viol
  · next q m ho =>
    have := h.access t q ho (s.armed t q) (s.q q ++ [m]) (s.recv q) (s.sent q ++ [m]) (by simp) (by rw [← h.fifo q]; simp)
    rwa [setF_self, setA_self] at this
  · exact viol

theorem run_inv (tr : List (Tid × Ev)) : ∀ {s : S}, Inv s → Inv (run s tr) := by
  induction tr with
  | nil => intro s h; exact h
  | cons x r ih => intro s h; obtain ⟨t, e⟩ := x; exact ih (step_inv s t e h)

theorem init_inv (guard : Nat → Nat) (q0 : Nat → List Nat) : Inv (init guard q0) :=
  ⟨rfl, fun t q h => by simp [init] at h, fun q => by simp [init]⟩

/-- **No call raises IndexError**, on any port composition, under every interleaving. -/
theorem C10_disc_no_fault (guard : Nat → Nat) (q0 : Nat → List Nat) (tr : List (Tid × Ev)) :
    (run (init guard q0) tr).fault = false := (run_inv tr (init_inv guard q0)).nofault

/-- **Every queue is first-in first-out, nothing lost, nothing doubled**: at every moment what was
    popped from a queue followed by what it still holds is exactly what was put into it, in the
    order of the appends. -/
theorem C10_disc_fifo (guard : Nat → Nat) (q0 : Nat → List Nat) (tr : List (Tid × Ev)) (q : Nat) :
    (run (init guard q0) tr).recv q ++ (run (init guard q0) tr).q q = (run (init guard q0) tr).sent q :=
  (run_inv tr (init_inv guard q0)).fifo q

/-- an access outside the discipline is flagged and changes nothing else -/
theorem C10_disc_flag (s : S) (t : Tid) (q m : Nat) (h : owns s t (s.guard q) = false) :
    (step s t (.app q m)).viol = true ∧ (step s t (.test q)).viol = true ∧ (step s t (.pop q)).viol = true ∧
    (step s t (.app q m)).q = s.q ∧ (step s t (.pop q)).q = s.q := by
  simp [step, h]

/-- a trace of the IOPort shape (nested re-entrant acquisition, three tests in one critical
    section) and a MultiPort-like nested pair of locks are inside the discipline -/
example : (run (init (fun q => q) (fun q => if q = 0 then [5] else []))
    [(1, .acq 0), (1, .acq 0), (1, .test 0), (1, .pop 0), (1, .rel 0), (1, .rel 0),
     (2, .acq 1), (2, .acq 0), (2, .test 0), (2, .rel 0), (2, .app 1 7), (2, .rel 1)]).viol = false := by
  decide

end Mido.Disc
