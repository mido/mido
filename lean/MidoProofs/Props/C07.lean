import MidoProofs.Lemmas.SmfEnc
import MidoProofs.Lemmas.SmfSound
/-!
  C07 — MIDI file save then load preserves every track.
-/
namespace Mido
open List

/-- a type-0 file without exactly one track is refused with ValueError -/
theorem C07_reject_type0 (cs : Charset) (f : MFile) (h : f.type = 0) (hl : f.tracks.length ≠ 1) :
    writeFile cs f = .error .ValueError := by
  rw [writeFile, if_pos ⟨h, hl⟩]

/-- a negative or non-integer time anywhere in a track (end_of_track messages included) makes
    `write_track` raise ValueError before anything is encoded -/
theorem C07_reject_time (cs : Charset) (tr : List TEvent) (e : TEvent) (he : e ∈ tr)
    (hbad : timeOk e = false) : writeTrack cs tr = .error .ValueError := by
  rw [writeTrack, all_eq_false.mpr ⟨e, he, Bool.eq_false_iff.mp hbad⟩]
  rfl

theorem fixEot_keeps (tr : List TEvent) : ∀ (acc : PyVal) (fixed : List TEvent),
    fixEotEvents acc tr = .ok fixed → ∀ e ∈ tr, e.ev.isEot = false → ∃ e' ∈ fixed, e'.ev = e.ev := by
  induction tr with
  | nil => intro acc fixed _ e he; cases he
  | cons x xs ih =>
    intro acc fixed h
    rcases fixEot_cons_ok h with ⟨hx, acc', h'⟩ | ⟨_, t, r, hr, rfl⟩
    · exact forall_mem_cons.mpr ⟨fun hne => (nomatch hne.symm.trans hx), ih acc' fixed h'⟩
    · exact forall_mem_cons.mpr ⟨fun _ => ⟨_, mem_cons_self, rfl⟩, fun e he hne =>
        (ih _ r hr e he hne).imp fun e' h => ⟨mem_cons_of_mem _ h.1, h.2⟩⟩

theorem writeEvents_no_realtime (cs : Charset) (es : List TEvent) : ∀ (running : Option Nat) (bs : List Nat),
    writeEvents cs running es = .ok bs → ∀ e ∈ es, e.ev.isRealtime = false := by
  induction es with
  | nil => intro _ _ _ e he; cases he
  | cons x xs ih =>
    intro running bs h
    obtain ⟨n, b, running', R, -, hrt, -, hws, -⟩ := writeEvents_cons_ok h
    exact forall_mem_cons.mpr ⟨hrt, ih running' R hws⟩

/-- **No unstorable contents are ever written.**  If `write_track` succeeds then every time is a
    non-negative integer and no message is a real-time message. -/
theorem C07_written_is_storable (cs : Charset) (tr : List TEvent) (bs : List Nat)
    (h : writeTrack cs tr = .ok bs) : ∀ e ∈ tr, timeOk e = true ∧ e.ev.isRealtime = false := by
  intro e he
  obtain ⟨hall, fixed, body, hf, hw, -⟩ := writeTrack_ok h
  refine ⟨all_eq_true.mp hall e he, ?_⟩
  cases hev : e.ev with
  | metaEv _ | unknownMeta _ _ => rfl
  | msg m =>
    obtain ⟨e', h1, h2⟩ := fixEot_keeps tr _ fixed hf e he (by rw [hev]; rfl)
    exact h2.trans hev ▸ writeEvents_no_realtime cs fixed none body hw e' h1

/-- a file is written only if its type/track-count combination is legal -/
theorem C07_written_type0 (cs : Charset) (f : MFile) (bs : List Nat) (h : writeFile cs f = .ok bs) :
    f.type = 0 → f.tracks.length = 1 := by
  intro h0
  apply Decidable.by_contra
  intro hl
  rw [C07_reject_type0 cs f h0 hl] at h; cases h

/-- the delta times written and read are variable-length quantities that read back exactly -/
theorem C07_vlq (n : Nat) (rest : List Nat) : readVlq (encVlq n ++ rest) = .ok (n, rest) :=
  readVlq_encVlq n rest

/-- **C07, save then load.**  Whenever `save` succeeds on a storable file, `load` of the written
    bytes (clip off) succeeds and returns the same type, the same ticks_per_beat and, per track,
    exactly the events of `fix_end_of_track(track)` — every message with its attributes and its
    delta, every end_of_track before the last removed with its ticks carried to the next message,
    and one end_of_track at the end.  All event kinds (channel, system common, sysex, known and
    unknown meta), running status in the written bytes, any number of tracks and any length. -/
theorem C07_roundtrip (cs : Charset) (f : MFile) (hs : StorableFile cs f) (bytes : List Nat)
    (hw : writeFile cs f = .ok bytes) :
    readFile cs false bytes = .ok ⟨f.type, f.tpb, f.tracks.map normTrack⟩ :=
  readFile_enc cs false _ bytes (writeFile_enc cs f hs.events hs.chunk bytes hw)

/-- the round trip as an identity on files already in the writer's normal form (one end_of_track,
    at the end): loading what was saved gives the file back, event for event -/
theorem C07_roundtrip_normal (cs : Charset) (f : MFile) (hs : StorableFile cs f) (bytes : List Nat)
    (hw : writeFile cs f = .ok bytes)
    (hn : ∀ tr ∈ f.tracks, fixEotEvents (.int 0) tr = .ok tr) :
    (readFile cs false bytes).map LFile.toM = .ok f := by
  rw [C07_roundtrip cs f hs bytes hw]
  simp only [Except.map, LFile.toM]
  have : (f.tracks.map normTrack).map (·.map LEvent.toT) = f.tracks := by
    rw [map_map]
    refine (map_congr_left fun tr htr => ?_).trans (map_id _)
    simp only [Function.comp, normTrack, hn tr htr, id]
    exact map_toT_toL fun e he => (hs.events tr htr e he).2
  rw [this]

/-- the file a load returns, as a file value again -/
def MFile.norm (f : MFile) : MFile := ⟨f.type, f.tpb, f.tracks.map normT⟩

/-- **Fixed point of the saved form.**  For a storable file, what `load(save(f))` returns is
    storable again, saving it writes the very same bytes, and loading those gives the same file:
    a second save/load round changes nothing. -/
theorem C07_saved_fixed_point (cs : Charset) (f : MFile) (hs : StorableFile cs f) (bytes : List Nat)
    (hw : writeFile cs f = .ok bytes) :
    (readFile cs false bytes).map LFile.toM = .ok f.norm ∧ StorableFile cs f.norm ∧
    writeFile cs f.norm = .ok bytes := by
  have hwn : writeFile cs f.norm = .ok bytes := by
    rw [← hw]
    simp only [writeFile, MFile.norm, length_map, writeTracks_normT cs f.tracks hs.events]
  refine ⟨?_, ⟨?_, ?_⟩, hwn⟩
  · rw [C07_roundtrip cs f hs bytes hw]
    simp [Except.map, LFile.toM, MFile.norm, normT]
  · exact forall_mem_map.mpr fun t ht => (writeTrack_normT cs t (hs.events t ht)).2
  · exact forall_mem_map.mpr fun t ht b hb =>
      hs.chunk t ht b ((writeTrack_normT cs t (hs.events t ht)).1 ▸ hb)

/-- **Fixed point of load-save-load, for ARBITRARY loadable bytes.**  Take any byte string (not
    necessarily produced by mido) that loads; if saving what was loaded succeeds (it is refused with
    ValueError when the file holds a real-time status byte), then loading the saved bytes gives the
    loaded file again with `end_of_track` normalised, that result is storable, saves to the very
    same bytes and loads to itself: from the second round on nothing changes.  Hypotheses that
    are limits of the format, not of the code: a sysex payload exactly at the reader's 1 000 000
    byte limit and unterminated, and track chunks of 4 GiB, are excluded. -/
theorem C07_fixed_point (cs : Charset) (b : List Nat) (hb : Bytes b) (L : LFile)
    (hl : readFile cs false b = .ok L) (b2 : List Nat) (hw : writeFile cs L.toM = .ok b2)
    (hsx : ∀ t ∈ L.tracks, ∀ e ∈ t, ∀ d, e.ev = .msg (.sysex d) → d.length + 1 ≤ maxMessageLength)
    (hfit : ∀ tr ∈ L.toM.tracks, ∀ bt, writeTrack cs tr = .ok bt → bt.length < 4294967296) :
    StorableFile cs L.toM ∧
    (readFile cs false b2).map LFile.toM = .ok L.toM.norm ∧
    StorableFile cs L.toM.norm ∧ writeFile cs L.toM.norm = .ok b2 := by
  obtain ⟨-, -, -, body, -, -, -, hbody, -⟩ := writeFile_ok hw
  have hs : StorableFile cs L.toM := by
    refine ⟨?_, hfit⟩
    intro tr htr e he
    obtain ⟨bt, hbt, -⟩ := writeTracks_mem hbody tr htr
    have hnr := (C07_written_is_storable cs tr bt hbt e he).2
    obtain ⟨t, ht, rfl⟩ := mem_map.mp htr
    obtain ⟨le, hle, rfl⟩ := mem_map.mp he
    exact ⟨sound_storable cs le.ev (readFile_sound cs b hb L hl t ht le hle) hnr (hsx t ht le hle), le.delta, rfl⟩
  exact ⟨hs, C07_saved_fixed_point cs L.toM hs b2 hw⟩

/-- a file not written by mido (padded delta, an end_of_track in the middle, running status kept
    across it) meets the hypotheses of `C07_fixed_point`: it loads, what was loaded can be saved,
    and the saved bytes are shorter than the original (normalised) -/
def fpBytes : List Nat := [77, 84, 104, 100, 0, 0, 0, 6, 0, 0, 0, 1, 0, 96, 77, 84, 114, 107, 0, 0, 0, 16,
  0x80, 0, 0x90, 60, 64, 0, 0xff, 0x2f, 0, 5, 62, 0, 0, 0xff, 0x2f, 0]

example : Bytes fpBytes ∧
    readFile .latin1 false fpBytes = .ok ⟨0, 96, [[⟨.msg (.chan3 .note_on 0 60 64), 0⟩, ⟨.metaEv ⟨.end_of_track, []⟩, 0⟩,
      ⟨.msg (.chan3 .note_on 0 62 0), 5⟩, ⟨.metaEv ⟨.end_of_track, []⟩, 0⟩]]⟩ ∧
    writeFile .latin1 (LFile.toM ⟨0, 96, [[⟨.msg (.chan3 .note_on 0 60 64), 0⟩, ⟨.metaEv ⟨.end_of_track, []⟩, 0⟩,
      ⟨.msg (.chan3 .note_on 0 62 0), 5⟩, ⟨.metaEv ⟨.end_of_track, []⟩, 0⟩]]⟩) =
      .ok [77, 84, 104, 100, 0, 0, 0, 6, 0, 0, 0, 1, 0, 96, 77, 84, 114, 107, 0, 0, 0, 11, 0, 144, 60, 64, 5, 62,
        0, 0, 255, 47, 0] := by
  exact ⟨by unfold Bytes; decide, by decide +kernel, by decide +kernel⟩

/-- a concrete two-track file: channel messages sharing a status byte (running status), a sysex,
    a known and an unknown meta message, an end_of_track in the middle with ticks to carry -/
def sampleFile : MFile := ⟨1, 96, [
  [⟨.metaEv ⟨.set_tempo, [.int 500000]⟩, .int 0⟩, ⟨.metaEv ⟨.end_of_track, []⟩, .int 7⟩,
   ⟨.msg (.chan3 .note_on 0 60 64), .int 3⟩, ⟨.msg (.chan3 .note_on 0 62 0), .int 200⟩],
  [⟨.msg (.sysex [1, 2, 3]), .int 0⟩, ⟨.unknownMeta 0x60 [9, 255], .int 5⟩,
   ⟨.msg (.pitchwheel 1 (-8192)), .int 16384⟩]]⟩

/-- the hypotheses of `C07_roundtrip` are met by `sampleFile`, the writer accepts it, the written
    bytes use running status (the second note has no status byte), and the conclusion is what the
    reader computes -/
example : StorableFile .latin1 sampleFile ∧
    writeFile .latin1 sampleFile = .ok
      [77, 84, 104, 100, 0, 0, 0, 6, 0, 1, 0, 2, 0, 96,
       77, 84, 114, 107, 0, 0, 0, 19, 0, 255, 81, 3, 7, 161, 32, 10, 144, 60, 64, 129, 72, 62, 0, 0, 255, 47, 0,
       77, 84, 114, 107, 0, 0, 0, 23, 0, 240, 4, 1, 2, 3, 247, 5, 255, 96, 2, 9, 255, 129, 128, 0, 225, 0, 0, 0, 255, 47, 0] := by
  -- the bytes are computed once; the chunk bound of `StorableFile` follows from their length
  refine (and_self_iff.mpr (by decide +kernel)).imp_left fun hw => ⟨?_, written_chunks_fit hw (by decide)⟩
  simp only [sampleFile, forall_mem_cons, not_mem_nil, false_imp_iff, implies_true, and_true]
  refine ⟨⟨?_, ?_, ?_, ?_⟩, ?_, ?_, ?_⟩
  · exact ⟨⟨by decide, by decide, by intro p hp; cases hp; decide⟩, 0, rfl⟩
  · exact ⟨⟨by decide, by decide, by intro p hp; cases hp; decide⟩, 7, rfl⟩
  · exact ⟨⟨by decide, by decide, fun _ hd => nomatch hd⟩, 3, rfl⟩
  · exact ⟨⟨by decide, by decide, fun _ hd => nomatch hd⟩, 200, rfl⟩
  · exact ⟨⟨by decide, by decide, by intro d hd; cases hd; decide⟩, 0, rfl⟩
  · exact ⟨⟨by decide, by decide, by decide, by decide⟩, 5, rfl⟩
  · exact ⟨⟨by decide, by decide, fun _ hd => nomatch hd⟩, 16384, rfl⟩

/-- a file with non-Latin text under `charset='utf-8'`: 'é€𝄞' as a track name -/
def utf8File : MFile := ⟨0, 480, [[⟨.metaEv ⟨.track_name, [.str [233, 8364, 119070]]⟩, .int 0⟩,
  ⟨.msg (.chan3 .note_on 9 36 100), .int 480⟩]]⟩

/-- `C07_roundtrip` applies to it (any charset of the model, utf-8 included), and these are its bytes -/
example : StorableFile .utf8 utf8File ∧
    writeFile .utf8 utf8File = .ok
      [77, 84, 104, 100, 0, 0, 0, 6, 0, 0, 0, 1, 1, 224,
       77, 84, 114, 107, 0, 0, 0, 22, 0, 255, 3, 9, 0xC3, 0xA9, 0xE2, 0x82, 0xAC, 0xF0, 0x9D, 0x84, 0x9E,
       131, 96, 153, 36, 100, 0, 255, 47, 0] := by
  refine (and_self_iff.mpr (by decide +kernel)).imp_left fun hw => ⟨?_, written_chunks_fit hw (by decide)⟩
  simp only [utf8File, forall_mem_cons, not_mem_nil, false_imp_iff, implies_true, and_true]
  refine ⟨⟨⟨by decide, by decide, fun p hp => ?_⟩, 0, rfl⟩,
    ⟨by decide, by decide, fun _ hd => nomatch hd⟩, 480, rfl⟩
  have : metaPayload .utf8 ⟨.track_name, [.str [233, 8364, 119070]]⟩ = .ok [0xC3, 0xA9, 0xE2, 0x82, 0xAC, 0xF0, 0x9D, 0x84, 0x9E] := by
    decide +kernel
  rw [this] at hp; cases hp; decide

end Mido
