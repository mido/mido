import MidoModel.Syx
import MidoProofs.Props.C06
import MidoProofs.Lemmas.Hex
/-!
  C19 — SYX files round-trip sysex messages.
-/
namespace Mido
open List

theorem parse_written (ms : List Msg) (h : ∀ m ∈ ms, m.Valid) :
    (parseAll ((ms.filter Msg.isSysex).flatMap encode)).map (·.filter Msg.isSysex) =
      .ok (ms.filter Msg.isSysex) := by
  rw [C06_concat _ (fun m hm => h m (mem_filter.mp hm).1)]
  simp [Except.map]

theorem sysex_first (ms : List Msg) :
    ms.filter Msg.isSysex = [] ∨ ∃ d r, ms.filter Msg.isSysex = .sysex d :: r := by
  cases hf : ms.filter Msg.isSysex with
  | nil => exact .inl rfl
  | cons m r =>
    have hs : m.isSysex = true := (mem_filter.mp (hf ▸ mem_cons_self : m ∈ ms.filter Msg.isSysex)).2
    cases m <;> simp [Msg.isSysex] at hs
    exact .inr ⟨_, r, rfl⟩

/-- **Binary format.** Writing any list of valid messages and reading it back returns exactly
    its sysex messages, in order, with equal data (any payload length, including empty). -/
theorem C19_bin (ms : List Msg) (h : ∀ m ∈ ms, m.Valid) :
    readSyx (writeSyxBin ms) = .ok (ms.filter Msg.isSysex) := by
  have hp := parse_written ms h
  unfold writeSyxBin
  rcases sysex_first ms with hf | ⟨d, r, hf⟩
  · rw [hf]; rfl
  · rw [hf] at hp ⊢
    have e : (Msg.sysex d :: r).flatMap encode = 0xf0 :: (d ++ [0xf7] ++ r.flatMap encode) := by
      simp [flatMap_cons, encode]
    rw [e] at hp ⊢
    simpa only [readSyx, if_true] using hp

/-- no sysex message: nothing is written, and an empty file reads as the empty list -/
theorem C19_none (ms : List Msg) (h : ms.filter Msg.isSysex = []) :
    writeSyxBin ms = [] ∧ writeSyxText ms = [] ∧ readSyx [] = .ok [] := by
  simp [writeSyxBin, writeSyxText, h, readSyx]

theorem fromHex_hexByte' (b : Nat) (hb : b < 256) (rest : List Char) :
    fromHex (hexByte b ++ rest) = (fromHex rest).map (b :: ·) := fromHex_hexByte b hb rest

/-- `syxChar` on the characters of a text instead of its bytes -/
def wsMap (c : Char) : Char := syxChar c.toNat

theorem wsMap_toHex (bs : List Nat) (hb : ∀ b ∈ bs, b < 256) : (toHex bs).map wsMap = toHex bs := by
  refine (map_congr_left fun c hc => ?_).trans (map_id _)
  rcases toHex_chars bs hb c hc with rfl | ⟨n, rfl⟩
  · decide
  · exact (by decide : ∀ n : Fin 16, wsMap (hexDigit n.val) = hexDigit n.val) n

/-- the bytes of the text file (ASCII, hence latin-1) -/
def textBytes (cs : List Char) : List Nat := cs.map Char.toNat

theorem text_body (ms : List Msg) (hv : ∀ m ∈ ms, m.Valid) :
    fromHex ((ms.flatMap (fun m => toHex (encode m) ++ ['\n'])).map wsMap) = .ok (ms.flatMap encode) := by
  induction ms with
  | nil => rfl
  | cons m r ih =>
    obtain ⟨hm, hr⟩ := forall_mem_cons.mp hv
    have hb := encode_bytes_lt m hm
    simp only [flatMap_cons, map_append, map_cons, show wsMap '\n' = ' ' by decide, wsMap_toHex _ hb, append_assoc,
      singleton_append]
    rw [fromHex_toHex_append _ hb, fromHex_space, ih hr]
    rfl

/-- **Plain text format.** The same round trip through the hex text written by
    `write_syx_file(plaintext=True)` (one line per message). -/
theorem C19_text (ms : List Msg) (h : ∀ m ∈ ms, m.Valid) :
    readSyx (textBytes (writeSyxText ms)) = .ok (ms.filter Msg.isSysex) := by
  have hp := parse_written ms h
  have hbody := text_body _ (fun m hm => h m (mem_filter.mp hm).1 : ∀ m ∈ ms.filter Msg.isSysex, m.Valid)
  unfold writeSyxText
  rcases sysex_first ms with hf | ⟨d, r, hf⟩
  · rw [hf]; rfl
  · rw [hf] at hp hbody ⊢
    -- the text starts with the hex digit 'F', not with the byte 240
    obtain ⟨tail, ht⟩ : ∃ tail,
        textBytes ((Msg.sysex d :: r).flatMap (fun m => toHex (encode m) ++ ['\n'])) = 70 :: tail := by
      cases d <;> exact ⟨_, rfl⟩
    have hmap : ∀ cs, (textBytes cs).map syxChar = cs.map wsMap := fun _ => map_map
    rw [ht, readSyx, if_neg (by decide), ← ht, hmap, hbody]
    simpa only [bind, Except.bind] using hp

/-- any whitespace between the two-digit hex numbers is accepted: every character that `\s`
    matches is turned into a blank before the hex text is read -/
theorem C19_layout (c : Nat) (h : isWsCode c = true) : syxChar c = ' ' := by simp [syxChar, h]

/-- text that is not two-digit hex raises ValueError: a lone digit or a non-hex letter -/
theorem C19_badtext :
    fromHex ['F'] = .error .ValueError ∧ fromHex ['F', ' ', '0'] = .error .ValueError ∧
    fromHex ['G', '0'] = .error .ValueError ∧ (∀ cs, fromHex cs = .error .Other → False) := by
  refine ⟨rfl, rfl, rfl, fun cs h => ?_⟩
  rcases fromHex_result cs with ⟨bs, hb, _⟩ | he
  · rw [hb] at h; cases h
  · rw [he] at h; cases h

end Mido
