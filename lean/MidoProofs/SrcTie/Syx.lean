/-
  Source tie for mido/syx.py: `read_syx_file` and `write_syx_file` on the contents of the file, translated from the source
  text, against the model; and C19 restated about the two translated functions.
-/
import MidoModel.Generated.SrcSyx
import MidoModel.Syx
import MidoProofs.SrcTie.Parser
import MidoProofs.SrcTie.Loops
import MidoProofs.Props.C19
namespace Mido
open Mido.Py

/-- PySem's `hexDigitVal` on code points against the model's `hexVal` on characters -/
theorem hex_table : ∀ a : Nat, a < 256 → hexVal (Char.ofNat a) = (hexDigitVal (a : Int)).map Int.toNat := by decide +kernel

/-- PySem's `isReWs` (`\s`) and `isAsciiWs` against the model's `isWsCode` and its blank -/
theorem ws_table : ∀ a : Nat, a < 256 → isReWs (a : Int) = isWsCode a ∧ (isAsciiWs (a : Int) = true → isReWs (a : Int) = true) ∧
    (isWsCode a = false → Char.ofNat a ≠ ' ') := by decide +kernel

theorem hexDigitVal_range {c x : Int} (h : hexDigitVal c = some x) : 0 ≤ x ∧ x ≤ 15 := by
  revert h
  fun_cases hexDigitVal c
  case case4 => nofun
  all_goals rintro ⟨⟩; omega

theorem subWs_cons (a : Nat) (tl : List Nat) :
    subWs (natsToInts (a :: tl)) = (if isReWs a then 32 else (a : Int)) :: subWs (natsToInts tl) := rfl

/-- `bytearray.fromhex(re.sub(r'\s', ' ', text))` of the source on latin1 text = the model's `fromHex` on the text with
    every whitespace character turned into a space.  Walked in lock step, one whitespace character or one pair at a
    time. -/
theorem src_fromhex : ∀ (data : List Nat), (∀ b ∈ data, b < 256) →
    fromhex (subWs (natsToInts data)) = (fromHex (data.map syxChar)).map natsToInts
  | [], _ => rfl
  | a :: tl, h => by
    obtain ⟨ha, ht⟩ := List.forall_mem_cons.mp h
    obtain ⟨w1, w2, w3⟩ := ws_table a ha
    rw [subWs_cons, List.map_cons, syxChar, w1]
    unfold fromhex
    cases hw : isWsCode a with
    | true =>
      rw [if_pos rfl, if_pos rfl, fromHex_space]
      exact src_fromhex tl ht
    | false =>
      have hne := w3 hw
      have hnws : isAsciiWs (a : Int) = false :=
        Bool.eq_false_iff.mpr fun hx => nomatch (w2 hx).symm.trans (w1.trans hw)
      simp only [Bool.false_eq_true, if_false, hnws]
      match tl, ht with
      | [], _ => rw [List.map_nil, fromHex_single _ hne]; rfl
      | b :: rest, ht =>
        obtain ⟨hb, hr⟩ := List.forall_mem_cons.mp ht
        have hvb : hexVal (syxChar b) = (hexDigitVal (if isReWs b then 32 else b)).map Int.toNat := by
          rw [syxChar, (ws_table b hb).1]
          split
          · rfl
          · exact hex_table b hb
        simp only [subWs_cons, List.map_cons, fromHex_pair _ _ _ hne, hex_table a ha, hvb, src_fromhex rest hr]
        cases h1 : hexDigitVal (a : Int) with
        | none => rfl
        | some x =>
          cases h2 : hexDigitVal (if isReWs b then 32 else b) with
          | none => rfl
          | some y =>
            rw [← Int.toNat_of_nonneg (hexDigitVal_range h1).1, ← Int.toNat_of_nonneg (hexDigitVal_range h2).1]
            cases fromHex (List.map syxChar rest) <;> rfl

theorem fromHex_bytes : ∀ (cs : List Char) (bs : List Nat), fromHex cs = .ok bs → ∀ b ∈ bs, b < 256 := by
  intro cs bs h
  rcases fromHex_result cs with ⟨bs', hb, hlt⟩ | he
  · rw [hb] at h; cases h; exact hlt
  · rw [he] at h; cases h

theorem parserExt_isSysex (m : Msg) : parserExt.isSysex m = m.isSysex := by cases m <;> rfl

theorem src_syx_loop (fb data text : List Int) : ∀ (q : List Msg) (fuel : Nat), q.length < fuel → ∀ (tok : Src.Tokenizer) (acc : List Msg),
    Src.read_syx_file.loop1 parserExt fb data text fuel { messages := q, _tok := tok } acc =
      .ok ({ messages := [], _tok := tok }, acc ++ q.filter Msg.isSysex)
  | _, 0, hf, _, _ => nomatch hf
  | [], f + 1, _, tok, acc => by rw [List.filter_nil, List.append_nil]; rfl
  | m :: q, f + 1, hf, tok, acc => by
    have ih := src_syx_loop fb data text q f (Nat.lt_of_succ_lt_succ hf) tok
    unfold Src.read_syx_file.loop1
    have hpos : (((q.length + 1 : Nat) : Int) > 0) := by omega
    simp only [len, List.length_cons, hpos, decide_true, if_true, idx_zero, ok_bind, List.tail_cons, parserExt_isSysex, ih,
      List.filter_cons, List.append_assoc, List.singleton_append]
    split <;> rfl

theorem src_feed_drain {fb d t : List Int} (bs : List Nat) (hb : ∀ b ∈ bs, b < 256) :
    ((Src.Parser.feed parserExt { messages := [], _tok := {} } (natsToInts bs)).bind fun v =>
      (Src.read_syx_file.loop1 parserExt fb d t (v.messages.length + 1) v []).bind fun st => .ok st.2) =
      (parseAll bs).map (·.filter Msg.isSysex) := by
  rw [src_fresh_feed bs hb]
  cases parseAll bs with
  | error e => rfl
  | ok ms => simp only [Except.bind, src_syx_loop _ _ _ ms _ (Nat.lt_succ_self _)]; rfl

/-- **`read_syx_file`** of the source, on the contents of the file: the model's `readSyx` -/
theorem src_read_syx (data : List Nat) (h : ∀ b ∈ data, b < 256) :
    Src.read_syx_file parserExt (natsToInts data) = readSyx data := by
  cases data with
  | nil => rfl
  | cons first rest =>
    unfold Src.read_syx_file readSyx
    have hlen : ¬ (len (natsToInts (first :: rest)) = 0) := by simp [len, natsToInts]; omega
    have hi : idx (natsToInts (first :: rest)) 0 = .ok (first : Int) := idx_zero ..
    simp only [hlen, hi, ok_bind, beq_iff_eq, if_false, natCast_eq_lit, src_fromhex _ h]
    refine ite_congr rfl (fun _ => src_feed_drain _ h) fun _ => ?_
    cases hx : fromHex ((first :: rest).map syxChar) with
    | error e => rfl
    | ok bs => exact src_feed_drain bs (fromHex_bytes _ _ hx)

example : Src.read_syx_file parserExt [0xF0, 1, 2, 0xF7, 0x90, 1, 2, 0xF0, 0xF7] = .ok [.sysex [1, 2], .sysex []] := by
  decide +kernel

example : Src.read_syx_file parserExt ("F0 01\n02\tF7 f8".toList.map (fun c => (c.toNat : Int))) = .ok [.sysex [1, 2]] := by
  decide +kernel

example : Src.read_syx_file parserExt ("F0 1 F7".toList.map (fun c => (c.toNat : Int))) = .error .ValueError := by
  decide +kernel

theorem src_write_loop (ms : List Msg) (g : Msg → List Int) (F : Msg → List Int → Except Err (ForInStep (List Int)))
    (hF : ∀ m r, F m r = .ok (.yield (r ++ g m))) : ∀ acc : List Int, forIn ms acc F = .ok (acc ++ ms.flatMap g) := by
  induction ms with
  | nil => intro acc; simp [pure, Except.pure]
  | cons m r ih =>
    intro acc
    rw [forIn_cons_yield (hF m acc), ih, List.flatMap_cons, List.append_assoc]

/-- text written to a file, as the code points of its characters -/
def textCodes (cs : List Char) : List Int := cs.map (fun c => (c.toNat : Int))

/-- **`write_syx_file`** of the source, what ends up in the file: the model's `writeSyxBin` / `writeSyxText` -/
theorem src_write_syx (ms : List Msg) :
    Src.write_syx_file parserExt ms false = .ok (natsToInts (writeSyxBin ms)) ∧
    Src.write_syx_file parserExt ms true = .ok (textCodes (writeSyxText ms)) := by
  unfold Src.write_syx_file
  simp only [List.map_id', parserExt_isSysex, Bool.false_eq_true, if_false, if_true, bind, Except.bind]
  constructor
  · rw [src_write_loop (ms.filter Msg.isSysex) (fun m => (encode m).map Int.ofNat)]
    · simp [pure, Except.pure, writeSyxBin, natsToInts, List.map_flatMap]
    · intro m r; rfl
  · rw [src_write_loop (ms.filter Msg.isSysex) (fun m => (toHex (encode m)).map (fun c => (c.toNat : Int)) ++ [(10 : Int)])]
    · simp [pure, Except.pure, writeSyxText, textCodes, List.map_flatMap]
    · intro m r; simp [parserExt, pure, Except.pure, List.append_assoc]

theorem textCodes_textBytes (cs : List Char) : textCodes cs = natsToInts (textBytes cs) := by
  simp only [textCodes, textBytes, natsToInts, List.map_map]; rfl

theorem text_char_lt (ms : List Msg) (h : ∀ m ∈ ms, m.Valid) : ∀ c ∈ writeSyxText ms, c.toNat < 256 := by
  intro c hc
  simp only [writeSyxText, List.mem_flatMap, List.mem_append, List.mem_cons, List.mem_nil_iff, or_false] at hc
  obtain ⟨m, hm, hc | rfl⟩ := hc
  · rcases toHex_chars _ (encode_bytes_lt m (h m (List.mem_filter.mp hm).1)) c hc with rfl | ⟨n, rfl⟩
    · decide
    · exact (by decide : ∀ n : Fin 16, (hexDigit n.val).toNat < 256) n
  · decide

/-- **C19 about the translated functions**: what the source's `write_syx_file` writes (either format), read by the
    source's `read_syx_file`, is the list of the sysex messages, in order -/
theorem src_syx_roundtrip (ms : List Msg) (h : ∀ m ∈ ms, m.Valid) :
    (Src.write_syx_file parserExt ms false >>= Src.read_syx_file parserExt) = .ok (ms.filter Msg.isSysex) ∧
    (Src.write_syx_file parserExt ms true >>= Src.read_syx_file parserExt) = .ok (ms.filter Msg.isSysex) := by
  have hv : ∀ m ∈ ms.filter Msg.isSysex, m.Valid := fun m hm => h m (List.mem_filter.mp hm).1
  constructor
  · rw [(src_write_syx ms).1, ok_bind, src_read_syx _ (by unfold writeSyxBin; exact encodes_bytes_lt _ hv)]
    exact C19_bin ms h
  · rw [(src_write_syx ms).2, ok_bind, textCodes_textBytes,
      src_read_syx (textBytes _) (List.forall_mem_map.mpr (text_char_lt ms h))]
    exact C19_text ms h

example : Src.write_syx_file parserExt [.sysex [1, 2], .chan3 .note_on 0 1 2, .sysex []] false = .ok [0xF0, 1, 2, 0xF7, 0xF0, 0xF7] := by
  decide +kernel

example : Src.write_syx_file parserExt [.sysex [1, 0xAB % 128], .songpos 3] true = .ok ("F0 01 2B F7\n".toList.map (fun c => (c.toNat : Int))) := by
  decide +kernel

end Mido
