/-
  The reader / writer ties and the C08 theorems composed: conformance with the Standard MIDI File format in both
  directions, stated about the functions translated from the source text.
-/
import MidoProofs.SrcTie.FileRoundTrip
import MidoProofs.Props.C08
namespace Mido
open Mido.Py

/-- **C08, read direction, at the level of the source text**: EVERY standard-conformant encoding of a file (any mix of
    running status, delta times and lengths padded at will, longer header chunks — the relation `EncFile`) is loaded by
    the translated `MidiFile._load` to exactly that file, with clip on or off -/
theorem src_load_any_encoding (cs : Charset) (f : LFile) (bytes : List Nat) (h : EncFile cs f bytes) (clip : Bool)
    (ty0 tpb0 : Int) :
    (Src.MidiFile._load (modelExt cs) ty0 tpb0 [] clip (mkFile bytes 0)).map
        (fun r => (r.1, r.2.1, r.2.2.1, r.2.2.2.1)) = .ok (f.type, f.tpb, f.tracks, clip) := by
  have hl := src_load cs clip bytes ty0 tpb0 []
  rw [C08_read_any cs f bytes h clip] at hl
  simpa using hl

/-- **C08, write direction, at the level of the source text**: what the translated `MidiFile.save` writes for a storable
    file is a member of the encoding relation for the in-memory header and `fix_end_of_track` of every track -/
theorem src_save_conforms (cs : Charset) (f : MFile) (hs : StorableFile cs f) (bytes : List Nat)
    (hw : writeFile cs f = .ok bytes) :
    Src.MidiFile.save f.type (f.tracks.map (·.map (TEvent.toW cs))) f.tpb [] = .ok ((), natsToInts bytes) ∧
    EncFile cs ⟨f.type, f.tpb, f.tracks.map normTrack⟩ bytes :=
  ⟨(src_save_load cs f hs bytes hw 0 0).1, C08_write_conforms cs f hs bytes hw⟩

end Mido
