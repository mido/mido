/-
  Source tie for the message-dict level of mido/messages: the translated `decode_message` returns the dict
  (`Msg.decDict`, an insertion-ordered association list) of what the model's `decodeInts` returns, and
  `encode_message` on that dict returns the model's `encode`.
-/
import MidoModel.Generated.SrcMsg
import MidoProofs.SrcTie.Codec
import MidoProofs.SrcTie.SpecTable
import MidoProofs.Props.C01
namespace Mido
open Mido.Py

def c3n1 : C3 → String | .note_off | .note_on | .polytouch => "note" | .control_change => "control"
def c3n2 : C3 → String | .note_off | .note_on => "velocity" | .polytouch | .control_change => "value"
def c2n1 : C2 → String | .program_change => "program" | .aftertouch => "value"

/-- the dict `decode_message` returns, pairs in ITS insertion order: dicts are ordered lists here -/
def Msg.decDict (t : Int) : Msg → PyDict
  | .chan3 k ch d1 d2 => [("type", .str k.name), ("time", .int t), (c3n1 k, .int d1), (c3n2 k, .int d2), ("channel", .int ch)]
  | .chan2 k ch d1 => [("type", .str k.name), ("time", .int t), (c2n1 k, .int d1), ("channel", .int ch)]
  | .pitchwheel ch p => [("type", .str "pitchwheel"), ("time", .int t), ("channel", .int ch), ("pitch", .int p)]
  | .sysex d => [("type", .str "sysex"), ("time", .int t), ("data", .ints (natsToInts d))]
  | .quarter_frame ft fv => [("type", .str "quarter_frame"), ("time", .int t), ("frame_type", .int ft), ("frame_value", .int fv)]
  | .songpos p => [("type", .str "songpos"), ("time", .int t), ("pos", .int p)]
  | .song_select s => [("type", .str "song_select"), ("time", .int t), ("song", .int s)]
  | .sys1 k => [("type", .str k.name), ("time", .int t)]

theorem checkDataItems_ints (ds : List Int) :
    checkDataItems (ds.map .int) = if ds.all inByteRange then .ok () else .error .ValueError := by
  induction ds with
  | nil => rfl
  | cons d rest ih =>
    simp only [List.map_cons, checkDataItems, checkDataItem, List.all_cons, ih, bind, Except.bind, ← inByteRange_iff]
    by_cases h : inByteRange d = true <;> simp [h]

theorem dfromPairs_type_time (a b : DV) : dfromPairs [("type", a), ("time", b)] = [("type", a), ("time", b)] := rfl

/-- `decode_message` on a status byte other than sysex whose table row is `row`: the source's tests in their order, the two
    dispatches (dedicated decoder or `_decode_data_bytes`) still folded -/
theorem decode_message_row (s : Int) {row : SpecRow} (hrow : dictGet Src.SPEC_BY_STATUS s = .ok row) (hs : s ≠ 240)
    (data : List Int) (t : Int) :
    Src.decode_message (s :: data) t =
      if data.all inByteRange then
        if dictHas Src.decode_SPECIAL_CASES s then
          if (data.length : Int) = row.length - 1 then
            (Src.decode_SPECIAL_CASES.call s data).map
              (dupdate (if List.elem s Src.CHANNEL_MESSAGES then
                  dset [("type", .str row.type), ("time", .int t)] "channel" (.int (land s 15))
                else [("type", .str row.type), ("time", .int t)]))
          else .error .ValueError
        else (Src._decode_data_bytes s data row).map (dupdate [("type", .str row.type), ("time", .int t)])
      else .error .ValueError := by
  simp only [Src.decode_message, src_check_data, checkDataItems_ints, len, List.length_cons, Int.natCast_succ, beq_iff_eq,
    show ¬ ((data.length : Int) + 1 = 0) by omega, if_false, idx_zero, mapErr, sliceFrom, List.drop_succ_cons, List.drop_zero,
    bne_iff_ne, ne_eq, Bool.and_eq_true, dfromPairs_type_time, ite_bind, ok_bind, ite_not, hrow, hs, not_false_eq_true, true_and]
  -- both sides are now the same ladder of tests: walk it
  refine ite_congr rfl (fun _ => ite_congr rfl (fun _ => ite_congr rfl (fun _ => ?_) fun _ => rfl) fun _ => ?_) fun _ => rfl
  · split <;> cases Src.decode_SPECIAL_CASES.call s data <;> rfl
  · cases Src._decode_data_bytes s data row <;> rfl

/-- the source's `decode_message` for a status byte that goes through `_decode_data_bytes` -/
theorem src_plain (n : Nat) (hn : n < 256) (ty : String) (L : Nat) (sb : Int) (names : List String)
    (hrow : rowOf n = .ok ⟨ty, (L + 1 : Nat), sb, names⟩) (hsp : ¬ (224 ≤ n ∧ n ≤ 242)) (data : List Int) (t : Int) :
    Src.decode_message ((n : Int) :: data) t =
      if data.all inByteRange then
        if data.length = L then
          .ok (dupdate [("type", .str ty), ("time", .int t)]
            (let args := dfromPairs ((List.zip (names.filter (fun x => x != "channel")) data).map (fun p => (p.1, DV.int p.2)))
             if 128 ≤ n ∧ n < 240 then dset args "channel" (.int ((n &&& 15 : Nat) : Int)) else args))
        else .error .ValueError
      else .error .ValueError := by
  rw [decode_message_row n ((spec_rows n hn).trans hrow) (by omega), special_mem, decide_eq_false hsp,
    if_neg Bool.false_ne_true]
  simp only [Src._decode_data_bytes, len, chan_elem, land_lit_right, bne_iff_ne, ne_eq, ite_not, decide_eq_true_eq,
    List.map_id']
  refine ite_congr rfl (fun _ => ?_) fun _ => rfl
  rw [apply_ite (Except.map _)]
  refine ite_congr (propext (by omega)) (fun _ => ?_) fun _ => rfl
  split <;> rfl

/-- source and model test the data bytes and the length `L` alike (`hsrc`: the source side, in the form `src_plain` / `src_special`
    give it), so that only the message built from well-formed data remains to be compared (`hfin`) -/
theorem decode_agrees_of_fixed_len (n : Nat) (hn : n < 256) {ty : String} (L : Nat) {sb : Int} {names : List String}
    (hrow : rowOf n = .ok ⟨ty, (L + 1 : Nat), sb, names⟩) {data : List Int} {t : Int} {r : Except Err PyDict}
    (hsrc : Src.decode_message ((n : Int) :: data) t =
      if data.all inByteRange then if data.length = L then r else .error .ValueError else .error .ValueError)
    (hfin : ∀ ns : List Nat, data = ns.map Int.ofNat → ns.length = L → (buildMsg n true ns).map (Msg.decDict t) = r) :
    Src.decode_message ((n : Int) :: data) t = (decodeInts ((n : Int) :: data)).map (Msg.decDict t) := by
  obtain ⟨hd, hl⟩ := rowOf_specLen (L := L) hn hrow rfl
  rw [hsrc, decodeInts_cons]
  simp only [checkData_ints, natCast_lt_lit, Nat.not_lt_zero, if_false, Int.toNat_natCast, hd, specLen_ne_F0 hl, hl,
    Bool.true_eq_false]
  by_cases hall : data.all inByteRange = true
  · simp only [hall, if_true, Except.bind, List.length_map]
    by_cases hlen : data.length = L
    · simp only [hlen, ne_eq, not_true, if_true, if_false]
      exact (hfin _ (toNat_list hall).1.symm (by rw [List.length_map, hlen])).symm
    · simp [hlen]; rfl
  · simp only [hall, Except.bind]; rfl

theorem rowOf_chan3 (k : C3) {n : Nat} (h1 : k.base ≤ n) (h2 : n < k.base + 16) :
    rowOf n = .ok ⟨k.name, 3, k.base, ["channel", c3n1 k, c3n2 k]⟩ := by
  unfold rowOf
  cases k <;> simp only [C3.base] at h1 h2
  all_goals
    repeat rw [if_neg (by omega)]
    rw [if_pos h2]; rfl

theorem rowOf_chan2 (k : C2) {n : Nat} (h1 : k.base ≤ n) (h2 : n < k.base + 16) :
    rowOf n = .ok ⟨k.name, 2, k.base, ["channel", c2n1 k]⟩ := by
  unfold rowOf
  cases k <;> simp only [C2.base] at h1 h2
  all_goals
    repeat rw [if_neg (by omega)]
    rw [if_pos h2]; rfl

theorem rowOf_pitch {n : Nat} (h1 : 224 ≤ n) (h2 : n < 240) :
    rowOf n = .ok ⟨"pitchwheel", 3, 224, ["channel", "pitch"]⟩ := by
  unfold rowOf
  repeat rw [if_neg (by omega)]
  rw [if_pos h2]

theorem rowOf_sys1 (k : S1) : rowOf k.status = .ok ⟨k.name, 1, k.status, []⟩ := by cases k <;> rfl

theorem dec_chan3 (k : C3) (n : Nat) (h1 : k.base ≤ n) (h2 : n < k.base + 16) (data : List Int) (t : Int) :
    Src.decode_message ((n : Int) :: data) t = (decodeInts ((n : Int) :: data)).map (Msg.decDict t) := by
  have hr := k.base_range
  have hrow := rowOf_chan3 k h1 h2
  refine decode_agrees_of_fixed_len n (by omega) 2 hrow (src_plain n (by omega) _ 2 _ _ hrow (by omega) data t) fun ns hd hlen => ?_
  obtain ⟨a, b, rfl⟩ := length_two hlen; subst hd
  simp only [List.map_cons, List.map_nil, buildMsg_chan3 k h1 h2, Except.map, Msg.decDict,
    if_pos (show 128 ≤ n ∧ n < 240 by omega)]
  cases k <;> rfl

theorem dec_chan2 (k : C2) (n : Nat) (h1 : k.base ≤ n) (h2 : n < k.base + 16) (data : List Int) (t : Int) :
    Src.decode_message ((n : Int) :: data) t = (decodeInts ((n : Int) :: data)).map (Msg.decDict t) := by
  have hr := k.base_range
  have hrow := rowOf_chan2 k h1 h2
  refine decode_agrees_of_fixed_len n (by omega) 1 hrow (src_plain n (by omega) _ 1 _ _ hrow (by omega) data t) fun ns hd hlen => ?_
  obtain ⟨a, rfl⟩ := List.length_eq_one_iff.mp hlen; subst hd
  simp only [List.map_cons, List.map_nil, buildMsg_chan2 k h1 h2, Except.map, Msg.decDict,
    if_pos (show 128 ≤ n ∧ n < 240 by omega)]
  cases k <;> rfl

theorem dec_song_select (data : List Int) (t : Int) :
    Src.decode_message (((243 : Nat) : Int) :: data) t = (decodeInts (((243 : Nat) : Int) :: data)).map (Msg.decDict t) := by
  refine decode_agrees_of_fixed_len 243 (by omega) 1 rfl (src_plain 243 (by omega) _ 1 _ _ rfl (by omega) data t) fun ns hd hlen => ?_
  obtain ⟨a, rfl⟩ := List.length_eq_one_iff.mp hlen; subst hd
  rfl

theorem dec_sys1 (k : S1) (data : List Int) (t : Int) :
    Src.decode_message ((k.status : Int) :: data) t = (decodeInts ((k.status : Int) :: data)).map (Msg.decDict t) := by
  have hr := k.status_range
  have hrow := rowOf_sys1 k
  refine decode_agrees_of_fixed_len _ hr.2 0 hrow (src_plain _ hr.2 _ 0 _ _ hrow (by omega) data t) fun ns hd hlen => ?_
  cases List.eq_nil_of_length_eq_zero hlen; subst hd
  rw [if_neg (by omega), List.map_nil, buildMsg_sys1]
  rfl

/-- the source's `decode_message` for a status byte with a dedicated decoder (not sysex) -/
theorem src_special (n : Nat) (hn : n < 256) (ty : String) (L : Nat) (sb : Int) (names : List String)
    (hrow : rowOf n = .ok ⟨ty, (L + 1 : Nat), sb, names⟩) (hsp : 224 ≤ n ∧ n ≤ 242) (h240 : n ≠ 240) (data : List Int) (t : Int) :
    Src.decode_message ((n : Int) :: data) t =
      if data.all inByteRange then
        if data.length = L then
          (Src.decode_SPECIAL_CASES.call (n : Int) data).map (fun v =>
            dupdate (if 128 ≤ n ∧ n < 240 then dset [("type", .str ty), ("time", .int t)] "channel" (.int ((n &&& 15 : Nat) : Int))
                     else [("type", .str ty), ("time", .int t)]) v)
        else .error .ValueError
      else .error .ValueError := by
  rw [decode_message_row n ((spec_rows n hn).trans hrow) (by omega), special_mem, chan_elem, decide_eq_true hsp, if_pos rfl,
    land_lit_right]
  have hl : ((data.length : Int) = ((L + 1 : Nat) : Int) - 1) = (data.length = L) := propext (by omega)
  simp only [hl, decide_eq_true_eq]

theorem decode_special_call (n : Nat) (d : List Int) : Src.decode_SPECIAL_CASES.call (n : Int) d =
    if 224 ≤ n ∧ n < 240 then (Src._decode_pitchwheel_data d).map fun v => dfromPairs [("pitch", .int v)]
    else if n = 240 then .ok (dfromPairs [("data", .ints d)])
    else if n = 241 then
      (Src._decode_quarter_frame_data d).map fun v => dfromPairs [("frame_type", .int v.1), ("frame_value", .int v.2)]
    else if n = 242 then (Src._decode_songpos_data d).map fun v => dfromPairs [("pos", .int v)]
    else .error .KeyError := by
  simp only [Src.decode_SPECIAL_CASES.call, special_get, bind, Except.bind]
  fun_cases specialFn n
  case case1 h1 =>
    simp only [if_pos h1, Src._decode_pitchwheel_data.d, Src._decode_pitchwheel_data, bind, Except.bind, pure, Except.pure]
    cases idx d 0 <;> cases idx d 1 <;> rfl
  case case2 h1 h2 => simp only [if_neg h1, if_pos h2]; rfl
  case case3 h1 h2 h3 =>
    simp only [if_neg h1, if_neg h2, if_pos h3, Src._decode_quarter_frame_data.d, Src._decode_quarter_frame_data, bind,
      Except.bind, pure, Except.pure]
    cases idx d 0 <;> rfl
  case case4 h1 h2 h3 h4 =>
    simp only [if_neg h1, if_neg h2, if_neg h3, if_pos h4, Src._decode_songpos_data.d, Src._decode_songpos_data, bind,
      Except.bind, pure, Except.pure]
    cases idx d 0 <;> cases idx d 1 <;> rfl
  case case5 => simp only [*, if_false]

theorem dec_pitchwheel (n : Nat) (h1 : 224 ≤ n) (h2 : n < 240) (data : List Int) (t : Int) :
    Src.decode_message ((n : Int) :: data) t = (decodeInts ((n : Int) :: data)).map (Msg.decDict t) := by
  have hrow := rowOf_pitch h1 h2
  refine decode_agrees_of_fixed_len n (by omega) 2 hrow (src_special n (by omega) _ 2 _ _ hrow (by omega) (by omega) data t)
    fun ns hd hlen => ?_
  obtain ⟨a, b, rfl⟩ := length_two hlen; subst hd
  obtain ⟨p, hb, hs⟩ := src_decode_pitchwheel n a b h1 h2
  rw [decode_special_call n, if_pos (show 224 ≤ n ∧ n < 240 from ⟨h1, h2⟩), hb, if_pos (show 128 ≤ n ∧ n < 240 by omega),
    List.map_cons, List.map_cons, List.map_nil, Int.ofNat_eq_natCast, Int.ofNat_eq_natCast, hs]
  rfl

theorem dec_quarter_frame (data : List Int) (t : Int) :
    Src.decode_message (((241 : Nat) : Int) :: data) t = (decodeInts (((241 : Nat) : Int) :: data)).map (Msg.decDict t) := by
  refine decode_agrees_of_fixed_len 241 (by omega) 1 rfl (src_special 241 (by omega) _ 1 _ _ rfl (by omega) (by omega) data t)
    fun ns hd hlen => ?_
  obtain ⟨a, rfl⟩ := List.length_eq_one_iff.mp hlen; subst hd
  obtain ⟨ft, fv, hb, hs⟩ := src_decode_quarter_frame a
  rw [decode_special_call 241, hb]
  simp only [Nat.reduceLeDiff, Nat.reduceLT, Nat.reduceEqDiff, and_false, if_false, if_true, List.map_cons, List.map_nil,
    Int.ofNat_eq_natCast, hs]
  rfl

theorem dec_songpos (data : List Int) (t : Int) :
    Src.decode_message (((242 : Nat) : Int) :: data) t = (decodeInts (((242 : Nat) : Int) :: data)).map (Msg.decDict t) := by
  refine decode_agrees_of_fixed_len 242 (by omega) 2 rfl (src_special 242 (by omega) _ 2 _ _ rfl (by omega) (by omega) data t)
    fun ns hd hlen => ?_
  obtain ⟨a, b, rfl⟩ := length_two hlen; subst hd
  obtain ⟨p, hb, hs⟩ := src_decode_songpos a b
  rw [decode_special_call 242, hb]
  simp only [Nat.reduceLeDiff, Nat.reduceLT, Nat.reduceEqDiff, and_false, if_false, if_true, List.map_cons, List.map_nil,
    Int.ofNat_eq_natCast, hs]
  rfl

theorem dec_sysex (data : List Int) (t : Int) :
    Src.decode_message ((240 : Int) :: data) t = (decodeInts ((240 : Int) :: data)).map (Msg.decDict t) := by
  have hrow : dictGet Src.SPEC_BY_STATUS (240 : Int) = .ok ⟨"sysex", 0, 240, ["data"]⟩ := spec_get 240
  have hsp : dictHas Src.decode_SPECIAL_CASES (240 : Int) = true := special_mem 240
  have hch : ¬ ((240 : Int) ∈ Src.CHANNEL_MESSAGES) := fun h =>
    Bool.false_ne_true (chan_has_240.symm.trans (List.elem_iff.2 h))
  have hcall : ∀ d, Src.decode_SPECIAL_CASES.call 240 d = .ok [("data", .ints d)] := decode_special_call 240
  rcases List.eq_nil_or_concat data with rfl | ⟨init, e, rfl⟩
  · rfl
  simp only [Src.decode_message, src_check_data, checkDataItems_ints]
  simp [len, idx_neg_one, sliceFrom, sliceDropLast, hrow, hsp, hch, hcall, mapErr, bind, Except.bind,
    pure, Except.pure, dfromPairs_type_time, show ¬ ((init.length : Int) + 1 + 1 = 0) by omega,
    show ¬ ((init.length : Int) + 1 < 1) by omega]
  rw [decodeInts_cons]
  simp only [checkData_ints, show ¬ (240 : Int) < 0 by omega, show (240 : Int).toNat = 240 from rfl,
    show definedStatus 240 = true from rfl, if_true, if_false, Bool.true_eq_false, List.all_eq_true, List.getLast?_concat,
    List.dropLast_concat]
  by_cases he : e = 247
  · simp only [he, if_true]
    by_cases hall : ∀ x ∈ init, inByteRange x = true
    · rw [if_pos hall, if_pos hall]
      simp only [Except.map, Msg.decDict, natsToInts, (toNat_list (List.all_eq_true.mpr hall)).1]
      rfl
    · rw [if_neg hall, if_neg hall]; rfl
  · simp only [he, if_false]; rfl

theorem dec_undefined (s : Int) (data : List Int) (t : Int) (h : dictGet Src.SPEC_BY_STATUS s = .error .KeyError)
    (hm : s < 0 ∨ definedStatus s.toNat = false) :
    Src.decode_message (s :: data) t = (decodeInts (s :: data)).map (Msg.decDict t) := by
  simp only [Src.decode_message]
  simp [len, h, mapErr, bind, Except.bind, show ¬ ((data.length : Int) + 1 = 0) by omega]
  rw [decodeInts_cons]
  by_cases h0 : s < 0
  · rw [if_pos h0]; rfl
  · rw [if_neg h0, if_pos (hm.resolve_left h0)]; rfl

theorem src_decode_message (xs : List Int) (t : Int) :
    Src.decode_message xs t = (decodeInts xs).map (Msg.decDict t) := by
  cases xs with
  | nil => rfl
  | cons s data =>
    by_cases hneg : s < 0
    · exact dec_undefined s data t (spec_out s (.inl hneg)) (.inl hneg)
    obtain ⟨n, rfl⟩ : ∃ n : Nat, s = n := ⟨s.toNat, by omega⟩
    cases hd : definedStatus n
    · have h := spec_len_get n
      rw [hd, if_neg Bool.false_ne_true] at h
      exact dec_undefined _ data t h (.inr hd)
    · rcases definedStatus_iff.1 hd with rfl | ⟨l, hl⟩
      · exact dec_sysex data t
      -- the status bytes with a length: three data-byte channel messages, two, pitchwheel, F1 / F3, F2, the one-byte system messages
      rcases specLen_cases hl with ⟨h1, h2, _⟩ | ⟨h1, h2, _⟩ | ⟨h1, h2, _⟩ | ⟨rfl | rfl, _⟩ | ⟨rfl, _⟩ | ⟨h, _⟩
      · obtain ⟨k, a, b⟩ := C3.exists_base h1 h2
        exact dec_chan3 k n a b data t
      · obtain ⟨k, a, b⟩ := C2.exists_base h1 h2
        exact dec_chan2 k n a b data t
      · exact dec_pitchwheel n h1 h2 data t
      · exact dec_quarter_frame data t
      · exact dec_song_select data t
      · exact dec_songpos data t
      · obtain ⟨k, -, rfl⟩ := S1.exists_status h
        exact dec_sys1 k data t

/-- what `encode_message` needs of a message to produce bytes at all: `pitch - MIN_PITCHWHEEL` is shifted and masked,
    which the model does on naturals -/
def Msg.encodable : Msg → Prop
  | .pitchwheel _ p => -8192 ≤ p
  | _ => True

theorem Msg.encodable_of_valid {m : Msg} (h : m.Valid) : m.encodable := by
  cases m <;> simp only [Msg.encodable]
  simp only [Msg.Valid, Msg.valid, Bool.and_eq_true, decide_eq_true_eq] at h; omega

theorem spec_by_type_rows :
    dictGetS Src.SPEC_BY_TYPE "polytouch" = rowOf 0xa0 ∧ dictGetS Src.SPEC_BY_TYPE "program_change" = rowOf 0xc0 ∧
    dictGetS Src.SPEC_BY_TYPE "aftertouch" = rowOf 0xd0 ∧ dictGetS Src.SPEC_BY_TYPE "song_select" = rowOf 0xf3 ∧
    ∀ k : S1, dictGetS Src.SPEC_BY_TYPE k.name = rowOf k.status := by
  refine ⟨by decide +kernel, by decide +kernel, by decide +kernel, by decide +kernel, ?_⟩
  intro k; cases k <;> decide +kernel

theorem sys1_no_encoder (k : S1) : dictHasS Src.encode_SPECIAL_CASES k.name = false := by cases k <;> decide +kernel

theorem decDict_type (m : Msg) (t : Int) : dgetStr (m.decDict t) "type" = .ok m.typeName := by
  cases m <;> rfl

theorem encode_special {m : Msg} (t : Int) (hsp : dictHasS Src.encode_SPECIAL_CASES m.typeName = true) :
    Src.encode_message (m.decDict t) = Src.encode_SPECIAL_CASES.call m.typeName (m.decDict t) := by
  simp only [Src.encode_message, decDict_type, hsp, bind, Except.bind, if_true, pure, Except.pure]

theorem encode_generic (m : Msg) (t : Int) {row : SpecRow}
    (hsp : dictHasS Src.encode_SPECIAL_CASES m.typeName = false) (hrow : dictGetS Src.SPEC_BY_TYPE m.typeName = .ok row) :
    Src.encode_message (m.decDict t) = (do
      let st ← if List.elem row.status_byte Src.CHANNEL_MESSAGES then
          (do pure (lor row.status_byte (← dgetInt (m.decDict t) "channel"))) else pure row.status_byte
      let data ← (row.value_names.filter (· != "channel")).mapM (dgetInt (m.decDict t))
      pure (st :: data)) := by
  simp only [Src.encode_message, decDict_type, hsp, hrow, bind, Except.bind, pure, Except.pure, Bool.false_eq_true, if_false]
  split
  · cases dgetInt (m.decDict t) "channel" <;> rfl
  · rfl

theorem src_encode_message (m : Msg) (t : Int) (h : m.encodable) :
    Src.encode_message (m.decDict t) = .ok (natsToInts (encode m)) := by
  obtain ⟨r1, r2, r3, r4, r5⟩ := spec_by_type_rows
  cases m with
  | chan3 k ch d1 d2 =>
    cases k
    · rw [encode_special t rfl, ← src_encode_note_off]; rfl
    · rw [encode_special t rfl, ← src_encode_note_on]; rfl
    · rw [encode_generic (.chan3 .polytouch ch d1 d2) t rfl r1]; rfl
    · rw [encode_special t rfl, ← src_encode_control_change]; rfl
  | chan2 k ch d1 =>
    cases k
    · rw [encode_generic (.chan2 .program_change ch d1) t rfl r2]; rfl
    · rw [encode_generic (.chan2 .aftertouch ch d1) t rfl r3]; rfl
  | pitchwheel ch p => rw [encode_special t rfl, ← src_encode_pitchwheel ch p h]; rfl
  | sysex d => rw [encode_special t rfl, ← src_encode_sysex]; rfl
  | quarter_frame ft fv => rw [encode_special t rfl, ← src_encode_quarter_frame]; rfl
  | songpos p => rw [encode_special t rfl, ← src_encode_songpos]; rfl
  | song_select sg => rw [encode_generic (.song_select sg) t rfl r4]; rfl
  | sys1 k =>
    have hc : List.elem ((k.status : Nat) : Int) Src.CHANNEL_MESSAGES = false :=
      (chan_elem k.status).trans (decide_eq_false (by have := k.status_range; omega))
    rw [encode_generic (.sys1 k) t (sys1_no_encoder k) ((r5 k).trans (rowOf_sys1 k))]
    simp only [hc, Bool.false_eq_true, if_false]
    rfl

/-- the round trip at the level of the source text: for every valid message, decoding (with the translated
    `decode_message`) what the translated `encode_message` produces gives back the dict it was given -/
theorem src_decode_encode (m : Msg) (t : Int) (h : m.Valid) :
    (Src.encode_message (m.decDict t)).bind (fun bs => Src.decode_message bs t) = .ok (m.decDict t) := by
  rw [src_encode_message m t (Msg.encodable_of_valid h)]
  have hd : decodeInts (natsToInts (encode m)) = .ok m := (decodeInts_ofNat _).trans (C01_decode_encode m h)
  simp only [Except.bind, src_decode_message, hd]; rfl

/-! non-vacuity: concrete runs of the translated functions -/
example : Src.decode_message [0x93, 60, 100] 7 =
    .ok [("type", .str "note_on"), ("time", .int 7), ("note", .int 60), ("velocity", .int 100), ("channel", .int 3)] := by
  decide +kernel

example : Src.decode_message [0xE2, 0, 64] 0 =
    .ok [("type", .str "pitchwheel"), ("time", .int 0), ("channel", .int 2), ("pitch", .int 0)] := by decide +kernel

example : Src.decode_message [0xF0, 1, 2, 0xF7] 0 =
    .ok [("type", .str "sysex"), ("time", .int 0), ("data", .ints [1, 2])] := by decide +kernel

example : Src.decode_message [0x93, 60] 0 = .error .ValueError ∧ Src.decode_message [0xF4] 0 = .error .ValueError ∧
    Src.decode_message [0x93, 60, 128] 0 = .error .ValueError ∧ Src.decode_message [0xF0, 1] 0 = .error .ValueError := by
  decide +kernel

example : Src.encode_message ((Msg.pitchwheel 2 (-8192)).decDict 0) = .ok [0xE2, 0, 0] := by decide +kernel
example : (Msg.chan3 .note_on 3 60 100).Valid ∧ (Msg.pitchwheel 2 (-8192)).Valid := by decide

end Mido
