import MidoModel.Codec
import MidoModel.MsgObj
import MidoModel.Generated.SrcCodec
import MidoProofs.SrcTie.Basic
/-!
  Source tie, message codec: what `harness/py2lean.py` generated from `mido/messages/encode.py`, `decode.py`, `checks.py`
  computes what the model (`encode`, `buildMsg`, `checkRange`) computes.  A translated function takes the `msg['k']` it
  reads as parameters in the order of their first occurrence in the Python text (`Src._encode_pitchwheel pitch channel`).
-/
namespace Mido
open Mido.Py

theorem src_encode_pitchwheel (ch : Nat) (p : Int) (h : -8192 ≤ p) :
    Src._encode_pitchwheel p ch = .ok (natsToInts (encode (.pitchwheel ch p))) := by
  obtain ⟨q, hq⟩ := Int.eq_ofNat_of_zero_le (show 0 ≤ p - (-8192) by omega)
  simp only [Src._encode_pitchwheel, encode, natsToInts, hq, pure, Except.pure]
  simp

theorem src_encode_sysex (d : List Nat) :
    Src._encode_sysex (natsToInts d) = .ok (natsToInts (encode (.sysex d))) := by
  simp [Src._encode_sysex, encode, natsToInts, pure, Except.pure]

theorem src_encode_quarter_frame (ft fv : Nat) :
    Src._encode_quarter_frame ft fv = .ok (natsToInts (encode (.quarter_frame ft fv))) := by
  simp [Src._encode_quarter_frame, encode, natsToInts, pure, Except.pure]

theorem src_encode_songpos (p : Nat) :
    Src._encode_songpos p = .ok (natsToInts (encode (.songpos p))) := rfl

theorem src_encode_note_off (ch n v : Nat) :
    Src._encode_note_off ch n v = .ok (natsToInts (encode (.chan3 .note_off ch n v))) := rfl

theorem src_encode_note_on (ch n v : Nat) :
    Src._encode_note_on ch n v = .ok (natsToInts (encode (.chan3 .note_on ch n v))) := rfl

theorem src_encode_control_change (ch c v : Nat) :
    Src._encode_control_change ch c v = .ok (natsToInts (encode (.chan3 .control_change ch c v))) := rfl

/-- which message types have a dedicated encoder (`_SPECIAL_CASES` of encode.py, as read from the
    working tree); every other type goes through the generic `status | channel` + value list path -/
theorem src_encode_dispatch : Src.ENCODE_SPECIAL_CASES =
    [("control_change", "_encode_control_change"), ("note_off", "_encode_note_off"),
     ("note_on", "_encode_note_on"), ("pitchwheel", "_encode_pitchwheel"),
     ("quarter_frame", "_encode_quarter_frame"), ("songpos", "_encode_songpos"),
     ("sysex", "_encode_sysex")] := rfl

/-- which status bytes have a dedicated decoder (`_SPECIAL_CASES` of decode.py) -/
theorem src_decode_dispatch : Src.DECODE_SPECIAL_CASES =
    ((List.range 16).map (fun i => (0xe0 + i, "_decode_pitchwheel_data"))) ++
    [(0xf0, "_decode_sysex_data"), (0xf1, "_decode_quarter_frame_data"), (0xf2, "_decode_songpos_data")] := rfl

theorem src_decode_sysex_data (d : List Int) : Src._decode_sysex_data d = .ok d := rfl

theorem src_decode_quarter_frame (d1 : Nat) :
    ∃ ft fv : Nat, buildMsg 0xf1 true [d1] = .ok (.quarter_frame ft fv) ∧
      Src._decode_quarter_frame_data [(d1 : Int)] = .ok ((ft : Int), (fv : Int)) :=
  ⟨d1 >>> 4, d1 &&& 15, rfl, rfl⟩

theorem src_decode_songpos (d1 d2 : Nat) :
    ∃ p : Nat, buildMsg 0xf2 true [d1, d2] = .ok (.songpos p) ∧
      Src._decode_songpos_data [(d1 : Int), (d2 : Int)] = .ok (p : Int) :=
  ⟨d1 ||| (d2 <<< 7), rfl, by simp [Src._decode_songpos_data, pure, Except.pure, bind, Except.bind]⟩

theorem src_decode_pitchwheel (s d1 d2 : Nat) (h1 : 0xE0 ≤ s) (h2 : s < 0xF0) :
    ∃ p : Int, buildMsg s true [d1, d2] = .ok (.pitchwheel (s &&& 0x0f) p) ∧
      Src._decode_pitchwheel_data [(d1 : Int), (d2 : Int)] = .ok p := by
  refine ⟨pyLor (d1 : Int) (((d2 : Int) <<< 7) + (-8192)), ?_, ?_⟩
  · simp only [buildMsg, Bool.not_true, Bool.false_eq_true, if_false]
    rw [if_pos h2, if_neg (by omega), if_neg (by omega), if_neg (by omega), if_neg (by omega)]
  · simp [Src._decode_pitchwheel_data, pure, Except.pure, bind, Except.bind, shlN, Int.shiftLeft_eq]

/-- the dedicated decoders on data of the wrong length (the length test of `decode_message` keeps these from being
    reached) -/
theorem src_decode_short :
    Src._decode_songpos_data [1] = .error .IndexError ∧
    Src._decode_pitchwheel_data [1] = .error .IndexError ∧
    Src._decode_quarter_frame_data [] = .error .IndexError :=
  ⟨rfl, rfl, rfl⟩

theorem range_form (lo hi n : Int) (e : Except Err Unit)
    (h1 : lo ≤ n ∧ n ≤ hi → e = .ok ()) (h2 : ¬ (lo ≤ n ∧ n ≤ hi) → e = .error .ValueError) :
    e = checkRange (.int n) lo hi := by
  simp only [checkRange]
  split
  · exact h1 ‹_›
  · exact h2 ‹_›

/-- a generated range check equals the model's `checkRange`: decided semantically (both branches by
    `omega`), so that re-arranged comparisons in the source keep the proof: the alternatives after `simp` are for a check
    written another way, where `simp` leaves an arithmetic goal or an `if` -/
macro "src_range" f:ident : tactic => `(tactic| (
  apply range_form <;> intro h <;>
  simp [$f:ident, pure, Except.pure, bind, Except.bind, throw, throwThe, MonadExceptOf.throw, h] <;>
  first | rfl | omega | (intros; omega) | (split <;> first | rfl | omega | (exfalso; omega))))

theorem src_check_channel (n : Int) : Src.check_channel n = checkRange (.int n) 0 15 := by
  src_range Src.check_channel
theorem src_check_pos (n : Int) : Src.check_pos n = checkRange (.int n) 0 16383 := by
  src_range Src.check_pos
theorem src_check_pitch (n : Int) : Src.check_pitch n = checkRange (.int n) (-8192) 8191 := by
  src_range Src.check_pitch
theorem src_check_frame_type (n : Int) : Src.check_frame_type n = checkRange (.int n) 0 7 := by
  src_range Src.check_frame_type
theorem src_check_frame_value (n : Int) : Src.check_frame_value n = checkRange (.int n) 0 15 := by
  src_range Src.check_frame_value
theorem src_check_data_byte (n : Int) : Src.check_data_byte n = checkRange (.int n) 0 127 := by
  src_range Src.check_data_byte

theorem src_check_data (xs : List Int) : Src.check_data xs = checkDataItems (xs.map Item.int) := by
  simp only [Src.check_data, src_check_data_byte]
  induction xs with
  | nil => rfl
  | cons x r ih =>
    simp only [List.forIn_cons, List.map_cons, checkDataItems]
    rw [show checkRange (.int x) 0 127 = checkDataItem (.int x) from rfl]
    cases checkDataItem (.int x) with
    | error e => rfl
    | ok u => exact ih

/-- `_CHECKS`: which check function guards which attribute name, as read from the working tree,
    is what the model's `checkAttr` implements (on integer values; other kinds are `TypeError`
    on both sides by the `isinstance` guard, which the translator resolves by type) -/
theorem src_checks_table :
    Src._CHECKS = [("channel", "check_channel"), ("control", "check_data_byte"), ("data", "check_data"),
      ("frame_type", "check_frame_type"), ("frame_value", "check_frame_value"), ("note", "check_data_byte"),
      ("pitch", "check_pitch"), ("pos", "check_pos"), ("program", "check_data_byte"),
      ("song", "check_data_byte"), ("time", "check_time"), ("type", "check_type"),
      ("value", "check_data_byte"), ("velocity", "check_data_byte")] := rfl

theorem src_checkAttr_int (n : Int) :
    checkAttr "channel" (.int n) = Src.check_channel n ∧
    checkAttr "pitch" (.int n) = Src.check_pitch n ∧
    checkAttr "pos" (.int n) = Src.check_pos n ∧
    checkAttr "frame_type" (.int n) = Src.check_frame_type n ∧
    checkAttr "frame_value" (.int n) = Src.check_frame_value n ∧
    (∀ name ∈ ["control", "note", "program", "song", "value", "velocity"],
      checkAttr name (.int n) = Src.check_data_byte n) := by
  simp [checkAttr, src_check_channel, src_check_pitch, src_check_pos, src_check_frame_type, src_check_frame_value,
    src_check_data_byte]

end Mido
