/-
  Source tie for `MidiFile.__iter__` and `length` (mido/midifiles/midifiles.py), with the float function `tick2second` a
  parameter, instantiated by the exact product ticks * tempo (the model's micro-tick unit).
-/
import MidoModel.Generated.SrcTiming
import MidoProofs.Props.C13
import MidoProofs.SrcTie.Loops
namespace Mido
open Mido.Py

def PEv.toMsg (e : PEv) : TMsg :=
  { id := 0, eot := false, time := e.delta, isMeta := e.isMeta, isSetTempo := e.tempo.isSome, tempo := (e.tempo.getD 0 : Nat) }

/-- `tick2second` in the model's unit (micro-ticks: one exact division by 10^6 · ticks_per_beat away from seconds) -/
def microT2S (ticks _tpb tempo : Int) : Int := ticks * tempo

/-- the value the local variable `delta` is left with -/
def lastDelta : List PEv → Int → Nat → Int
  | [], d, _ => d
  | e :: es, _, tempo => lastDelta es (if e.delta > 0 then ((e.delta * tempo : Nat) : Int) else 0) (e.tempo.getD tempo)

/-- the messages `__iter__` yields -/
def outOf (es : List PEv) (tempo : Nat) : List TMsg :=
  List.zipWith (fun (e : PEv) (t : Nat) => { e.toMsg with time := (t : Int) }) es (iterMicro tempo es)

theorem outOf_cons (e : PEv) (es : List PEv) (tempo : Nat) :
    outOf (e :: es) tempo =
      { e.toMsg with time := ((if e.delta > 0 then e.delta * tempo else 0 : Nat) : Int) } :: outOf es (e.tempo.getD tempo) := rfl

theorem toMsg_delta (e : PEv) (tpb : Int) (tempo : Nat) :
    (if e.toMsg.time > 0 then microT2S e.toMsg.time tpb tempo else 0) =
      (if e.delta > 0 then ((e.delta * tempo : Nat) : Int) else 0) := by
  simp [PEv.toMsg, microT2S]

theorem toMsg_tempo (e : PEv) (tempo : Nat) :
    (if e.toMsg.isSetTempo = true then e.toMsg.tempo else (tempo : Int)) = ((e.tempo.getD tempo : Nat) : Int) := by
  cases h : e.tempo <;> simp [PEv.toMsg, h]

theorem src_iter_loop (tpb : Int) (F : TMsg → (List TMsg × Int × Int) → Except Err (ForInStep (List TMsg × Int × Int)))
    (hF : ∀ msg s, F msg s = .ok (.yield (s.1 ++ [{ msg with time := if msg.time > 0 then microT2S msg.time tpb s.2.2 else 0 }],
        (if msg.time > 0 then microT2S msg.time tpb s.2.2 else 0), (if msg.isSetTempo then msg.tempo else s.2.2)))) :
    ∀ (es : List PEv) (out : List TMsg) (d : Int) (tempo : Nat),
      forIn (es.map PEv.toMsg) ((out, d, (tempo : Int)) : List TMsg × Int × Int) F =
        .ok (out ++ outOf es tempo, lastDelta es d tempo, ((es.foldl (fun t e => e.tempo.getD t) tempo : Nat) : Int)) := by
  intro es
  induction es with
  | nil => intro out d tempo; simp [pure, Except.pure, iterMicro, outOf, lastDelta]
  | cons e es ih =>
    intro out d tempo
    rw [List.map_cons, forIn_cons_yield (hF _ _)]
    simp only [toMsg_delta, toMsg_tempo]
    rw [ih]
    simp only [outOf_cons, apply_ite (Nat.cast (R := Int)), Int.natCast_zero, List.foldl_cons, List.append_assoc,
      List.singleton_append, lastDelta]

/-- **`MidiFile.__iter__`** of the source, with `tick2second` a parameter: every message of the merged track is handed out
    with the time `tick2second(delta, ticks_per_beat, tempo in force)` (0 for a delta of 0), the tempo switching AFTER the
    `set_tempo` message has been handed out and starting from 500000 — the model's `iterMicro` -/
theorem src_iter (es : List PEv) (tpb : Int) :
    Src.MidiFile.iter (es.map PEv.toMsg) tpb microT2S = .ok (outOf es defaultTempo) := by
  unfold Src.MidiFile.iter
  simp only [bind, Except.bind, pure, Except.pure]
  -- `default`: the translated `let mut delta := default`
  have hl := fun F hF => src_iter_loop tpb F hF es [] default defaultTempo
  rw [show ((defaultTempo : Nat) : Int) = 500000 from rfl] at hl
  rw [hl]
  · simp
  · intro msg ⟨o, d, t⟩
    by_cases h1 : msg.time > 0 <;> by_cases h2 : msg.isSetTempo = true <;> simp [h1, h2]

theorem outOf_times : ∀ (es : List PEv) (tempo : Nat),
    (outOf es tempo).map (·.time) = (iterMicro tempo es).map (fun (t : Nat) => (t : Int)) := by
  intro es
  induction es with
  | nil => intro _; rfl
  | cons e es ih =>
    intro tempo
    simp only [outOf_cons, iterMicro, List.map_cons, ih]

/-- **C13 at the level of the source text**: the times the translated `__iter__` attaches to the messages are the model's,
    so the cumulative time of the first k messages is the integral of the tempo map over the ticks they cover, and the sum of
    all of them (`length`) is the integral over the whole piece -/
theorem src_iter_integral (es : List PEv) (tpb : Int) (k : Nat) :
    ∃ out, Src.MidiFile.iter (es.map PEv.toMsg) tpb microT2S = .ok out ∧
      out.map (·.time) = (iterMicro defaultTempo es).map (fun (t : Nat) => (t : Int)) ∧
      sumList ((iterMicro defaultTempo es).take k) = integral defaultTempo (absTicks 0 es) 0 (totalDelta (es.take k)) ∧
      lengthMicro es = integral defaultTempo (absTicks 0 es) 0 (totalDelta es) :=
  ⟨_, src_iter es tpb, outOf_times es defaultTempo, C13_integral es k, C13_length es⟩

example : (Src.MidiFile.iter ([⟨10, none, false⟩, ⟨0, some 250000, true⟩, ⟨4, none, false⟩].map PEv.toMsg) 480 microT2S).map
    (fun out => out.map (·.time)) = .ok [5000000, 0, 1000000] := by decide +kernel

theorem foldl_time_map (l : List TMsg) (a : Int) :
    List.foldl (fun acc msg => acc + msg.time) a l = List.foldl (· + ·) a (l.map (·.time)) :=
  List.foldl_map.symm

theorem foldl_cast (l : List Nat) (a : Nat) :
    List.foldl (· + ·) (a : Int) (l.map (fun (t : Nat) => (t : Int))) = ((List.foldl (· + ·) a l : Nat) : Int) := by
  induction l generalizing a with
  | nil => rfl
  | cons x r ih => simp only [List.foldl_cons, List.map_cons, ← Int.natCast_add, ih]

/-- **`MidiFile.length`** of the source (a property: the type-2 refusal comes first, then the file's own translated
    `__iter__` is run to its end and the times are added from 0), with the float arithmetic of `tick2second` replaced by the
    model's exact unit: the model's `lengthFile` -/
theorem src_length (ty : Nat) (es : List PEv) (tpb : Int) :
    Src.MidiFile.length (ty : Int) (es.map PEv.toMsg) tpb microT2S = (lengthFile ty es).map (fun (n : Nat) => (n : Int)) := by
  unfold Src.MidiFile.length lengthFile
  by_cases h : ty = 2
  · subst h; rfl
  · simp only [natCast_beq_lit, beq_iff_eq, h, if_false, bind, Except.bind, pure, Except.pure, src_iter, Except.map,
      foldl_time_map, outOf_times, lengthMicro]
    exact congrArg Except.ok (foldl_cast (iterMicro defaultTempo es) 0)

/-- C13 (length) about the translated property: refused with ValueError for a type-2 file, otherwise the integral of the
    tempo map over the whole file -/
theorem src_length_integral (ty : Nat) (es : List PEv) (tpb : Int) (h : ty ≠ 2) :
    Src.MidiFile.length (ty : Int) (es.map PEv.toMsg) tpb microT2S =
      .ok ((integral defaultTempo (absTicks 0 es) 0 (totalDelta es) : Nat) : Int) ∧
    Src.MidiFile.length 2 (es.map PEv.toMsg) tpb microT2S = .error .ValueError := by
  constructor
  · rw [src_length, lengthFile, if_neg h, C13_length]; rfl
  · exact src_length 2 es tpb

example : Src.MidiFile.length 1 ([⟨10, none, false⟩, ⟨0, some 250000, true⟩, ⟨4, none, false⟩].map PEv.toMsg) 480 microT2S = .ok 6000000 := by
  decide +kernel

end Mido
