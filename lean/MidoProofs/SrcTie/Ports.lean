/-
  Source tie for mido/ports.py in `PM`, against the sequential port model; `_receive`, `_send`, `_close` are parameters (the
  model's device double), `with self._lock:` is read as its body.  The model returns (state, outcome), `PM` (outcome, state):
  every statement swaps them.  First `Nat` of `receive`, `poll`, `iter_*`: polling rounds of one `receive` (the model's:
  `p.fuel`); second: iterations of the outer loop.
-/
import MidoModel.Generated.SrcPorts
import MidoProofs.Lemmas.PMRun
import MidoProofs.Lemmas.PortSeq
namespace Mido
open Mido.Py

/-- the device side of a model port; a `script` entry is one `_receive` call: what arrives, and does the device close itself -/
structure PDev where
  kind : PKind
  script : List (List Nat × Bool)
  log : List LogEv
  budget : Option Nat

def Port.toSrc (p : Port) : Src.BasePort Nat PDev :=
  { closed := p.closed, _messages := p.queue, autoreset := p.autoreset, sleeps := p.sleeps,
    dev := { kind := p.kind, script := p.script, log := p.log, budget := p.budget } }

def portOfSrc (s : Src.BasePort Nat PDev) : Port :=
  { kind := s.dev.kind, closed := s.closed, queue := s._messages, autoreset := s.autoreset, script := s.dev.script,
    log := s.dev.log, sleeps := s.sleeps.toNat, budget := s.dev.budget }

@[simp] theorem portOfSrc_toSrc (p : Port) : portOfSrc p.toSrc = p := rfl

/-- the device double of the model behind the methods ports.py calls on the port subclass; its `_receive` appends to
    `_messages` (`envStep`) and returns `None`, as mido's device ports do -/
def modelPortExt : Src.PortExt Nat PDev where
  recv _ := fun s => (.ok none, (portOfSrc s).envStep.toSrc)
  send id := fun s =>
    let p := portOfSrc s
    if p.sendFails then (.error .OSError, s) else (.ok (), (p.rawSend id).toSrc)
  closeDev := fun s => let p := portOfSrc s; (.ok (), ({ p with log := p.log ++ [.closed] } : Port).toSrc)
  copy := id
  resetMsgs := resetIds

def exc {α} : Except Err Unit → α → Except Err α
  | .ok _, a => .ok a
  | .error e, _ => .error e

@[simp] theorem mext_send (id : Nat) (p : Port) : modelPortExt.send id p.toSrc =
    if p.sendFails then (.error .OSError, p.toSrc) else (.ok (), (p.rawSend id).toSrc) := rfl

@[simp] theorem mext_recv (b : Bool) (p : Port) : modelPortExt.recv b p.toSrc = (.ok none, p.envStep.toSrc) := rfl
@[simp] theorem mext_close (p : Port) : modelPortExt.closeDev p.toSrc = (.ok (), ({ p with log := p.log ++ [.closed] } : Port).toSrc) := rfl
@[simp] theorem mext_copy (m : Nat) : modelPortExt.copy m = m := rfl
@[simp] theorem mext_reset : modelPortExt.resetMsgs = resetIds := rfl
@[simp] theorem toSrc_closed (p : Port) : p.toSrc.closed = p.closed := rfl
@[simp] theorem toSrc_messages (p : Port) : p.toSrc._messages = p.queue := rfl
@[simp] theorem toSrc_autoreset (p : Port) : p.toSrc.autoreset = p.autoreset := rfl

/-- `BaseOutput.send` -/
theorem src_port_send (p : Port) (id : Nat) :
    Src.BaseOutput.send modelPortExt id p.toSrc = ((p.send id).2, (p.send id).1.toSrc) := by
  fun_cases Port.send p id <;> simp [Src.BaseOutput.send, *]

/-- does one of the sends of `l` meet a device that refuses? -/
def failsWithin (l : List Nat) (p : Port) : Bool :=
  p.kind == .dev && (match p.budget with | some b => decide (b < l.length) | none => false)

/-- the loop of `reset()`: `send` message by message; the first refusal raises and ends it -/
theorem src_reset_loop (F : Nat → PUnit → PM (Src.BasePort Nat PDev) (ForInStep PUnit))
    (hF : ∀ i u, F i u = (do Src.BaseOutput.send modelPortExt i; pure (ForInStep.yield PUnit.unit))) :
    ∀ (l : List Nat) (p : Port), p.closed = false →
      forIn l PUnit.unit F p.toSrc =
        ((if failsWithin l p then .error .OSError else .ok PUnit.unit), (Port.resetSends l p).toSrc)
  | [], p, _ => by unfold failsWithin; cases p.kind <;> cases p.budget <;> rfl
  | i :: r, p, hc => by
    rw [List.forIn_cons, hF]
    simp only [PM.run_bind, src_port_send, Port.send, hc, Bool.false_eq_true, if_false, Port.resetSends]
    fun_cases Port.sendFails p with
    | case1 hb hk => simp [failsWithin, hk, hb]
    | case2 hn =>
      -- the budget left after a `_send` that went through is one less
      have hfw : failsWithin r (p.rawSend i) = failsWithin (i :: r) p := by
        unfold failsWithin Port.rawSend
        cases hk : p.kind with
        | echo => rfl
        | dev =>
          cases hb : p.budget with
          | none => rfl
          | some b =>
            cases b with
            | zero => exact (hn hk hb).elim
            | succ b => simp
      simp only [Bool.false_eq_true, if_false, PM.run_pure, ← hfw]
      exact src_reset_loop F hF r (p.rawSend i) ((rawSend_same p i).closed.trans hc)

theorem userReset_open (p : Port) (h : p.closed = false) :
    p.userReset = (Port.resetSends resetIds p, if failsWithin resetIds p then .error .OSError else .ok ()) := by
  simp only [Port.userReset, h, Bool.false_eq_true, if_false]
  rfl

/-- `BaseOutput.reset`, called by the user and by `close()` of an autoreset port -/
theorem src_port_reset (p : Port) :
    Src.BaseOutput.reset modelPortExt p.toSrc = (p.userReset.2, p.userReset.1.toSrc) := by
  unfold Src.BaseOutput.reset
  cases hc : p.closed with
  | true => simp [Port.userReset, hc]
  | false =>
    rw [userReset_open p hc]
    simp only [PM.run_bind, PM.run_get, toSrc_closed, hc, Bool.false_eq_true, if_false, mext_reset, PM.run_ite]
    rw [src_reset_loop _ (fun _ _ => rfl) resetIds p hc]
    cases failsWithin resetIds p <;> rfl

/-- `BasePort.close`: nothing on a closed port; otherwise the reset messages of an autoreset port (an OSError from the device
    ends them and is swallowed), then the device is closed and the flag set -/
theorem src_port_close (p : Port) :
    Src.BasePort.close modelPortExt p.toSrc = (.ok (), p.close.toSrc) := by
  cases hc : p.closed with
  | true =>
    -- both sides compute once the flags are known
    obtain ⟨k, cl, qu, ar, sc, lg, sl, bu⟩ := p; cases hc; rfl
  | false =>
    cases ha : p.autoreset with
    | false => obtain ⟨k, cl, qu, ar, sc, lg, sl, bu⟩ := p; cases hc; cases ha; rfl
    | true =>
      unfold Src.BasePort.close Port.close
      simp only [PM.run_bind, PM.run_get, toSrc_closed, toSrc_autoreset, hc, ha, PM.run_ite, Bool.not_false, if_true,
        PM.run_tryCatch, src_port_reset, userReset_open p hc]
      cases failsWithin resetIds p <;> rfl

/-- what a receiving call hands back -/
def routSrc : ROut → Except Err (Option Nat)
  | .msg m => .ok (some m)
  | .none => .ok none
  | .raised e => .error e
  | .hang => .error .Hang

theorem toSrc_sleep (p : Port) :
    ({ p.toSrc with sleeps := p.toSrc.sleeps + 1 } : Src.BasePort Nat PDev) = ({ p with sleeps := p.sleeps + 1 } : Port).toSrc :=
  rfl

theorem toSrc_pop (p : Port) (q : List Nat) :
    ({ p.toSrc with _messages := q } : Src.BasePort Nat PDev) = ({ p with queue := q } : Port).toSrc :=
  rfl

/-- the polling loop of `BaseInput.receive` -/
theorem src_recv_loop (f0 : Nat) (block : Bool) : ∀ (fuel : Nat) (p : Port),
    Src.BaseInput.receive.loop1 modelPortExt f0 block fuel () p.toSrc =
      (match (Port.recvLoop block fuel p).2 with
        | .hang => .error .Hang
        | o => (routSrc o).map Sum.inl,
       (Port.recvLoop block fuel p).1.toSrc)
  | 0, p => rfl
  | fuel + 1, p => by
    rw [recvLoop_succ, Src.BaseInput.receive.loop1]
    simp only [if_true, PM.run_bind, mext_recv]
    obtain ⟨k, cl, qu, ar, sc, lg, sl, bu⟩ := p.envStep
    cases qu with
    | cons m q => rfl
    | nil =>
      cases block with
      | false => rfl
      | true =>
        cases cl with
        | true => rfl
        | false => exact src_recv_loop f0 true fuel ⟨k, false, [], ar, sc, lg, sl + 1, bu⟩

theorem src_receive_run {M D : Type} (ext : Src.PortExt M D) (F : Nat) (block : Bool) (s : Src.BasePort M D) :
    Src.BaseInput.receive ext F block s =
      match s._messages with
      | m :: q => (.ok (some m), { s with _messages := q })
      | [] =>
        if s.closed then (if block then .error .ValueError else .ok none, s)
        else (Src.BaseInput.receive.loop1 ext F block F () >>= fun r =>
          match r with | .inl r => pure r | .inr _ => throw Err.Hang) s := by
  obtain ⟨c, ms, a, d, sl⟩ := s
  unfold Src.BaseInput.receive
  cases ms with
  | cons m q => rfl
  | nil => cases c <;> cases block <;> rfl

/-- `BaseInput.receive` with `F` rounds -/
theorem src_port_receiveF (F : Nat) (p : Port) (block : Bool) :
    Src.BaseInput.receive modelPortExt F block p.toSrc = (routSrc (p.receiveF F block).2, (p.receiveF F block).1.toSrc) := by
  rw [src_receive_run, Port.receiveF]
  simp only [toSrc_messages, toSrc_closed, PM.run_bind, src_recv_loop]
  cases p.queue with
  | cons m q => rfl
  | nil =>
    cases p.closed with
    | true => cases block <;> rfl
    | false =>
      obtain ⟨p', o⟩ := Port.recvLoop block F p
      cases o <;> rfl

/-- with the model's own number of rounds, `p.fuel` -/
theorem src_port_receive (p : Port) (block : Bool) :
    Src.BaseInput.receive modelPortExt p.fuel block p.toSrc = (routSrc (p.receive block).2, (p.receive block).1.toSrc) :=
  src_port_receiveF p.fuel p block

/-- `BaseInput.poll` = `receive(block=False)`: one round of the loop at most -/
theorem src_port_poll (p : Port) (f : Nat) :
    Src.BaseInput.poll modelPortExt (f + 1) p.toSrc = (routSrc p.poll.2, p.poll.1.toSrc) := by
  simp only [Src.BaseInput.poll, src_port_receiveF, receiveF_nb f (p.script.length + 1)]
  rfl

def endSrc (acc : List Nat) : Ending → Except Err (List Nat)
  | .normal => .ok acc
  | .raised e => .error e
  | .hang => .error .Hang

/-- the loop of `BaseInput.iter_pending`: `poll()` until it answers None -/
theorem src_iter_pending_loop (f f2' : Nat) : ∀ (fuel2 : Nat) (p : Port) (acc : List Nat),
    Src.BaseInput.iter_pending.loop1 modelPortExt (f + 1) f2' fuel2 acc p.toSrc =
      ((endSrc (Port.iterPending fuel2 p acc).2.1 (Port.iterPending fuel2 p acc).2.2).map Sum.inl,
       (Port.iterPending fuel2 p acc).1.toSrc)
  | 0, p, acc => rfl
  | n + 1, p, acc => by
    rw [Src.BaseInput.iter_pending.loop1, Port.iterPending]
    simp only [if_true, PM.run_bind, src_port_poll]
    obtain ⟨p', o⟩ := p.poll
    cases o with
    | msg m => exact src_iter_pending_loop f f2' n p' (acc ++ [m])
    | _ => rfl

/-- `BaseInput.iter_pending` run to its end -/
theorem src_port_iter_pending (p : Port) (f fuel2 : Nat) :
    Src.BaseInput.iter_pending modelPortExt (f + 1) fuel2 p.toSrc =
      (endSrc (Port.iterPending fuel2 p []).2.1 (Port.iterPending fuel2 p []).2.2, (Port.iterPending fuel2 p []).1.toSrc) := by
  unfold Src.BaseInput.iter_pending
  simp only [PM.run_bind, src_iter_pending_loop]
  obtain ⟨p', acc, e⟩ := Port.iterPending fuel2 p []
  cases e <;> rfl

/-! non-vacuity: `close()` swallows the OSError of a device that refuses the fifth reset message; two receives -/
example : ((Src.BasePort.close modelPortExt
      ({ autoreset := true, budget := some 4 } : Port).toSrc).2.dev.log.length,
    (Src.BasePort.close modelPortExt ({ autoreset := true, budget := some 4 } : Port).toSrc).2.closed) = (5, true) := by
  decide +kernel

example : (Src.BaseInput.receive modelPortExt 5 true ({ script := [([], false), ([7, 8], false)] } : Port).toSrc).1 = .ok (some 7) := by
  decide +kernel

example : (Src.BaseInput.receive modelPortExt 5 true ({ script := [([], true)] } : Port).toSrc).1 = .error .OSError := by
  decide +kernel

end Mido
