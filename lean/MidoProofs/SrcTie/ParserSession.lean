/-
  The Parser tie and the C05 refinement composed: sessions on the translated Parser object answer what the abstract
  specification answers.
-/
import MidoProofs.SrcTie.Parser
import MidoProofs.Props.C05
namespace Mido
open Mido.Py

/-- the operations of a parser session that call a translated method directly -/
def POp.isBasic : POp → Bool
  | .feed bs => bs.all inByte
  | .feedByte b => inByte b
  | .get | .pending => true
  | _ => false

/-- one operation performed on the translated `Parser` object -/
def srcStep (p : Src.Parser Msg) : POp → Except Err (Src.Parser Msg × POut)
  | .feed bs => (Src.Parser.feed parserExt p bs).map (fun p' => (p', .none))
  | .feedByte b => (Src.Parser.feed_byte parserExt p b).map (fun p' => (p', .none))
  | .get => (Src.Parser.get_message parserExt p).map (fun r => (r.2, match r.1 with | some m => .msg m | none => .none))
  | .pending => (Src.Parser.pending parserExt p).map (fun r => (r.2, .count r.1.toNat))
  | _ => .error .Other

/-- a whole session on the translated object -/
def srcRun (p : Src.Parser Msg) : List POp → Except Err (List POut)
  | [] => .ok []
  | op :: rest => do
    let (p1, o) ← srcStep p op
    let os ← srcRun p1 rest
    pure (o :: os)

theorem isBasic_isParserOp (op : POp) (h : op.isBasic = true) : op.isParserOp = true := by
  cases op <;> simp_all [POp.isBasic, POp.isParserOp]

theorem feedOp_tie {p : PState} {bs : List Int} {r : Except Err (Src.Parser Msg)}
    (hr : r = match p.feedOp bs with
      | (_, .raised e) => .error e
      | (p', _) => .ok p'.toSrc)
    (ho : (p.feedOp bs).2 = .none) :
    r.map (fun p' => (p', POut.none)) = .ok ((p.feedOp bs).1.toSrc, (p.feedOp bs).2) := by
  cases hx : p.feedOp bs with
  | mk p' o => rw [hx] at hr ho; simp only at ho; subst ho hr; rfl

/-- on a reachable state (`Sim`), a basic operation on the translated object is the model's operation: it does not raise,
    gives the same answer and leaves the corresponding state -/
theorem srcStep_sim {p : PState} {a : ASt} (hs : Sim p a) (op : POp) (h : op.isBasic = true) :
    srcStep p.toSrc op = .ok ((pstep p op).1.toSrc, (pstep p op).2) := by
  cases op with
  | feed bs => exact feedOp_tie (src_parser_feed p bs) (hs.feed bs (by simpa [POp.isBasic] using h)).1
  | feedByte b =>
    exact feedOp_tie (src_parser_feed_byte p b) (hs.feed [b] (by simpa [POp.isBasic] using h)).1
  | get =>
    simp only [srcStep, src_parser_get p, pstep]
    cases p.queue <;> rfl
  | pending =>
    simp only [srcStep, src_parser_pending]
    rfl
  | _ => simp [POp.isBasic] at h

/-- **C05 at the level of the source text**: any session of feed / feed_byte / get_message / pending calls on the
    translated `Parser` (valid bytes, any chunking, any interleaving) never raises and answers exactly what the abstract
    specification answers (the messages of the bytes fed so far, first in first out; pending = what is left) -/
theorem src_parser_session (ops : List POp) (h : ∀ op ∈ ops, op.isBasic = true) :
    srcRun ({} : PState).toSrc ops = .ok (arun {} ops).2 := by
  suffices ∀ p a, Sim p a → srcRun p.toSrc ops = .ok (arun a ops).2 from this _ _ Sim.init
  induction ops with
  | nil => intros; rfl
  | cons op rest ih =>
    intro p a hs
    obtain ⟨hb, hr⟩ := List.forall_mem_cons.mp h
    obtain ⟨ho, hs'⟩ := hs.step op (isBasic_isParserOp op hb)
    simp only [srcRun, srcStep_sim hs op hb, bind, Except.bind, arun]
    rw [ih hr _ _ hs', ho]
    rfl

example : srcRun ({} : PState).toSrc [.feed [0x90, 60], .pending, .get, .feedByte 100, .feed [0xF8], .pending, .get, .get, .get] =
    .ok [.none, .count 0, .none, .none, .none, .count 2, .msg (.chan3 .note_on 0 60 100), .msg (.sys1 .clock), .none] := by
  rfl

end Mido
