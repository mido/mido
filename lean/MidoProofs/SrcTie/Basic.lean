import MidoModel.PySem
/-!
  What the source-tie modules share: byte lists as lists of Python ints, Python operators and comparisons on casts of
  naturals, `xs[i]` at literal positions, a dict over the byte values as the tabulation of a function.
-/
namespace Mido

def natsToInts (xs : List Nat) : List Int := xs.map Int.ofNat

theorem natsToInts_append (a b : List Nat) : natsToInts (a ++ b) = natsToInts a ++ natsToInts b := by
  simp [natsToInts]

/-- None or a natural number as Python's None or int -/
def optInt (r : Option Nat) : Option Int := r.map Int.ofNat

def intsToNats (xs : List Int) : List Nat := xs.map Int.toNat

@[simp] theorem intsToNats_natsToInts (xs : List Nat) : intsToNats (natsToInts xs) = xs := by
  simp [intsToNats, natsToInts, List.map_map, Function.comp_def]

end Mido

namespace Mido.Py

@[simp] theorem lor_ofNat (a b : Nat) : lor (a : Int) (b : Int) = ((a ||| b : Nat) : Int) := rfl
@[simp] theorem land_ofNat (a b : Nat) : land (a : Int) (b : Int) = ((a &&& b : Nat) : Int) := rfl
@[simp] theorem shrN_ofNat (a k : Nat) : shrN (a : Int) k = ((a >>> k : Nat) : Int) := rfl
@[simp] theorem shlN_ofNat (a k : Nat) : shlN (a : Int) k = ((a <<< k : Nat) : Int) := by
  simp [shlN, Nat.shiftLeft_eq]

/-! A numeral `(k : Int)` is `OfNat.ofNat k`; `no_index` lets `simp` match the lemma on every literal. -/

@[simp] theorem lor_lit_left (a b : Nat) : lor (no_index (OfNat.ofNat a)) (b : Int) = ((a ||| b : Nat) : Int) := rfl
@[simp] theorem lor_lit_right (a b : Nat) : lor (a : Int) (no_index (OfNat.ofNat b)) = ((a ||| b : Nat) : Int) := rfl
@[simp] theorem land_lit_left (a b : Nat) : land (no_index (OfNat.ofNat a)) (b : Int) = ((a &&& b : Nat) : Int) := rfl
@[simp] theorem land_lit_right (a b : Nat) : land (a : Int) (no_index (OfNat.ofNat b)) = ((a &&& b : Nat) : Int) := rfl
@[simp] theorem lor_shift (a b k : Nat) : lor (a : Int) ((b : Int) <<< k) = ((a ||| b <<< k : Nat) : Int) := by
  rw [← Int.natCast_shiftLeft]; rfl

@[simp] theorem lor_shift_left (a b k : Nat) : lor ((a : Int) <<< k) (b : Int) = ((a <<< k ||| b : Nat) : Int) := by
  rw [← Int.natCast_shiftLeft]; rfl

theorem natCast_beq (a b : Nat) : ((a : Int) == (b : Int)) = (a == b) := by
  rw [Bool.eq_iff_iff, beq_iff_eq, beq_iff_eq, Int.natCast_inj]

theorem natCast_beq_lit (a k : Nat) : ((a : Int) == (no_index (OfNat.ofNat k))) = (a == k) := natCast_beq a k

theorem natCast_bne_lit (a k : Nat) : ((a : Int) != (no_index (OfNat.ofNat k))) = (a != k) :=
  congrArg (!·) (natCast_beq a k)

theorem natCast_eq_lit (a k : Nat) : ((a : Int) = (no_index (OfNat.ofNat k))) = (a = k) :=
  propext (Int.natCast_inj (n := k))

theorem natCast_lt_lit (a k : Nat) : ((a : Int) < (no_index (OfNat.ofNat k))) = (a < k) :=
  propext (Int.ofNat_lt (m := k))

theorem lit_lt_natCast (a k : Nat) : ((no_index (OfNat.ofNat k)) < (a : Int)) = (k < a) :=
  propext (Int.ofNat_lt (n := k))

theorem natCast_le_lit (a k : Nat) : ((a : Int) ≤ (no_index (OfNat.ofNat k))) = (a ≤ k) :=
  propext (Int.ofNat_le (n := k))

theorem lit_le_natCast (a k : Nat) : ((no_index (OfNat.ofNat k)) ≤ (a : Int)) = (k ≤ a) :=
  propext (Int.ofNat_le (m := k))

theorem optMap_natCast_beq : ∀ a b : Option Nat, (a.map Int.ofNat == b.map Int.ofNat) = (a == b)
  | none, none | none, some _ | some _, none => rfl
  | some x, some y => natCast_beq x y

@[simp] theorem idx_zero {α} (x : α) (xs : List α) : idx (x :: xs) 0 = .ok x := by simp [idx]
@[simp] theorem idx_one {α} (x y : α) (xs : List α) : idx (x :: y :: xs) 1 = .ok y := by simp [idx]
@[simp] theorem idx_two {α} (x y z : α) (xs : List α) : idx (x :: y :: z :: xs) 2 = .ok z := by simp [idx]
@[simp] theorem idx_three {α} (x y z w : α) (xs : List α) : idx (x :: y :: z :: w :: xs) 3 = .ok w := by
  simp [idx]

@[simp] theorem idx_nil {α} (i : Int) : idx ([] : List α) i = .error .IndexError := by
  unfold idx; simp

theorem idx_one_single {α} (x : α) : idx [x] 1 = .error .IndexError := by simp [idx]

theorem idx_neg_one {α} (xs : List α) :
    idx xs (-1) = match xs.getLast? with | some e => .ok e | none => .error .IndexError := by
  cases xs with
  | nil => simp [idx]
  | cons x r =>
    have h : ¬ ((-1 : Int) + ((r.length + 1 : Nat) : Int) < 0) := by omega
    have h2 : ((-1 : Int) + ((r.length + 1 : Nat) : Int)).toNat = r.length := by omega
    simp only [idx, Int.reduceLT, if_true, List.length_cons, h, if_false, h2,
      List.getLast?_eq_getElem?, Nat.add_sub_cancel]
    cases (x :: r)[r.length]? <;> rfl

theorem dictHas_eq_isOk {α} (tbl : List (Int × α)) (k : Int) : dictHas tbl k = (dictGet tbl k).isOk := by
  rw [dictHas, dictGet, ← List.isSome_find?]
  cases tbl.find? _ <;> rfl

/-- the dict `{n: v for n in range(N) if f(n) = ok v}` -/
def tabulate {α} (N : Nat) (f : Nat → Except Err α) : List (Int × α) :=
  (List.range N).filterMap fun n => match f n with | .ok v => some ((n : Int), v) | .error _ => none

theorem find?_tabulate {α} (f : Nat → Except Err α) (k : Int) (N : Nat) :
    (tabulate N f).find? (fun p => p.1 == k) =
      if 0 ≤ k ∧ k < N then (match f k.toNat with | .ok v => some (k, v) | .error _ => none) else none := by
  induction N with
  | zero => simp [tabulate]; omega
  | succ N ih =>
    have hs : tabulate (N + 1) f = tabulate N f ++ (match f N with | .ok v => [((N : Int), v)] | .error _ => []) := by
      simp only [tabulate, List.range_succ, List.filterMap_append, List.filterMap_cons, List.filterMap_nil]
      cases f N <;> rfl
    rw [hs, List.find?_append, ih]
    by_cases h2 : k = N
    · subst h2
      rw [if_neg (by omega), if_pos (by omega), Int.toNat_natCast]
      cases f N <;> simp
    · have : (match f N with | .ok v => [((N : Int), v)] | .error _ => []).find? (fun p : Int × α => p.1 == k) = none := by
        cases f N <;> simp [Ne.symm h2]
      rw [this, Option.or_none]
      exact ite_congr (propext (by omega)) (fun _ => rfl) fun _ => rfl

theorem dictGet_tabulate_out {α} (f : Nat → Except Err α) (N : Nat) (s : Int) (h : s < 0 ∨ N ≤ s) :
    dictGet (tabulate N f) s = .error .KeyError := by
  rw [dictGet, find?_tabulate, if_neg (by omega)]

theorem dictGet_tabulate {α} (f : Nat → Except Err α) (N n : Nat) (hf : ∀ e, f n = .error e → e = .KeyError)
    (hN : N ≤ n → f n = .error .KeyError) : dictGet (tabulate N f) (n : Int) = f n := by
  by_cases h : n < N
  · rw [dictGet, find?_tabulate, if_pos (by omega), Int.toNat_natCast]
    cases hn : f n with
    | ok v => rfl
    | error e => rw [hf e hn]
  · rw [dictGet_tabulate_out f N n (.inr (by omega)), hN (by omega)]

theorem ite_ok_eq_error {α} {c : Prop} [Decidable c] {a : α} {x : Except Err α} {e : Err} :
    ((if c then .ok a else x) = .error e) = (¬ c ∧ x = .error e) := by
  by_cases h : c <;> simp [h]

end Mido.Py
