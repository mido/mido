import MidoModel.Tokenizer
import MidoModel.Generated.SrcTok
import MidoProofs.SrcTie.SpecTable
import MidoProofs.Lemmas.TokStep
/-!
  Source tie, tokenizer: the state machine that `harness/py2lean.py` generated from the text of
  `mido/tokenizer.py` (`_feed_status_byte`, `_feed_data_byte`, `feed_byte`, `feed`) steps exactly
  like the hand-written model `Tok` on which C04, C05, C06, C18 and C19 are proved.
-/
namespace Mido
open Mido.Py

/-- the model state as the generated structure (Python ints are `Int`) -/
def Tok.toSrc (t : Tok) : Src.Tokenizer :=
  { _status := t.status, _bytes := t.bytes.map Int.ofNat,
    _messages := t.out.map (·.map Int.ofNat), _len := t.len }

/-- the generated `SPEC_BY_STATUS` table (extracted from the working tree) against the model's
    `definedStatus` / `specLen`, for every byte value -/
theorem src_spec_table : ∀ s, s < 256 →
    dictHas Src.SPEC_BY_STATUS (Int.ofNat s) = definedStatus s ∧
    (definedStatus s = true →
      (dictGet Src.SPEC_BY_STATUS (Int.ofNat s)).map (·.length) = .ok (Int.ofNat ((specLen s).getD 0))) := fun s h => by
  have hm := spec_len s h
  rw [dictHas_eq_isOk]
  split at hm
  next hd =>
    obtain ⟨r, hg, -⟩ := map_eq_ok.mp hm
    exact ⟨by rw [hg, hd]; rfl, fun _ => hm⟩
  next hd => rw [hm]; exact ⟨(Bool.eq_false_iff.mpr hd).symm, (absurd · hd)⟩

theorem src_feed_data (t : Tok) (b : Nat) :
    Src.Tokenizer._feed_data_byte t.toSrc b = .ok (t.feedData b).toSrc := by
  simp only [Src.Tokenizer._feed_data_byte, Tok.feedData, Tok.toSrc, len, natCast_bne_lit, bne_iff_ne, natCast_beq, beq_iff_eq,
    List.length_append, List.length_map, List.length_singleton]
  split
  · split <;> simp [pure, Except.pure]
  · rfl

/-- `s < 256` is needed here although the model's invariants do without it: the source tests `248 <= status <= 255`, the
    model only `0xF8 ≤ s` -/
theorem src_feed_status (t : Tok) (s : Nat) (h1 : 128 ≤ s) (h2 : s < 256) :
    Src.Tokenizer._feed_status_byte t.toSrc s = .ok (t.feedStatus s).toSrc := by
  have hhas : dictHas Src.SPEC_BY_STATUS (s : Int) = definedStatus s := (src_spec_table s h2).1
  have hget := spec_len_get s
  -- the translated body once, as an `if` chain over the model's tests
  simp only [Src.Tokenizer._feed_status_byte, Tok.toSrc, natCast_beq_lit, natCast_bne_lit, natCast_le_lit, lit_le_natCast,
    hhas, pure, Except.pure, beq_iff_eq, bne_iff_ne, Bool.and_eq_true, decide_eq_true_eq]
  by_cases h247 : s = 247
  · subst h247
    rw [if_pos rfl, t.feedStatus_sysexEnd]
    by_cases hs : t.status = 240 <;> simp [hs]
  rw [if_neg h247]
  by_cases hrt : 248 ≤ s
  · rw [if_pos ⟨hrt, by omega⟩, t.feedStatus_rt hrt]
    by_cases hs : t.status = 240 <;> cases definedStatus s <;> simp [hs]
  rw [if_neg (by omega)]
  by_cases h240 : s = 240
  · subst h240
    obtain ⟨row, hget, hlen⟩ := hget
    have hlen : row.length = 0 := hlen
    rw [if_pos (show definedStatus 240 = true from rfl), hget]
    simp [bind, Except.bind, hlen, t.feedStatus_sysexStart]
  cases hl : specLen s with
  | none =>
    have hd : definedStatus s = false := by simp [definedStatus, h240, hl]
    rw [t.feedStatus_undefined hl h240 h247 (by omega), hd, if_neg Bool.false_ne_true]
  | some n =>
    have hd : definedStatus s = true := definedStatus_iff.mpr (.inr ⟨n, hl⟩)
    rw [if_pos hd, hl] at hget
    obtain ⟨row, hget, hlen⟩ := hget
    have hlen : row.length = (n : Int) := hlen
    rw [t.feedStatus_fixed hl (by omega), if_pos hd, hget]
    by_cases hn1 : n = 1 <;> simp [bind, Except.bind, hlen, hn1, natCast_eq_lit]

/-- `feed_byte`: range check, then the data or the status arm -/
theorem src_feed_byte (t : Tok) (b : Int) :
    Src.Tokenizer.feed_byte t.toSrc b = (t.feedByteChecked b).map Tok.toSrc := by
  simp only [Src.Tokenizer.feed_byte, Tok.feedByteChecked, Bool.not_true, Bool.false_eq_true, if_false, Bool.and_eq_true,
    decide_eq_true_eq]
  split
  next hr =>
    obtain ⟨n, rfl⟩ := Int.eq_ofNat_of_zero_le hr.1
    rw [Int.toNat_natCast, Tok.feedByte, apply_ite Except.ok, apply_ite (Except.map _)]
    exact ite_congr (propext (by omega)) (fun _ => src_feed_data t n) fun _ => src_feed_status t n (by omega) (by omega)
  · rfl

/-- `feed`: the loop over the input; the first bad item decides the exception (the bytes before it
    stay consumed in the Python object: that part of the state is the hand model's `feedChecked`) -/
theorem src_feed (t : Tok) (bs : List Int) :
    Src.Tokenizer.feed t.toSrc bs =
      match feedChecked t bs with
      | (t', none) => .ok t'.toSrc
      | (_, some e) => .error e := by
  simp only [Src.Tokenizer.feed]
  induction bs generalizing t with
  | nil => rfl
  | cons b r ih =>
    simp only [List.forIn_cons, feedChecked, src_feed_byte]
    cases t.feedByteChecked b with
    | error e => rfl
    | ok t1 => exact ih t1

end Mido
