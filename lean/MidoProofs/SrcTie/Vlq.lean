import MidoModel.Vlq
import MidoProofs.Lemmas.Bits
import MidoModel.Generated.SrcMetaNum
import MidoProofs.SrcTie.Loops
/-!
  Source tie of `encode_variable_int` / `decode_variable_int` of `mido/midifiles/meta.py` (Generated/SrcMetaNum.lean)
  with the model's `encVlq` / `readVlq`.
-/
namespace Mido
open Mido.Py

theorem land_127 (b : Nat) : land (b : Int) 127 = ((b % 128 : Nat) : Int) := by
  rw [land_lit_right, and127]

theorem shl7_lor (acc b : Nat) (hb : b < 128) : lor (shlN (acc : Int) 7) (b : Int) = ((acc * 128 + b : Nat) : Int) := by
  rw [shlN_ofNat, lor_ofNat, ← Nat.shiftLeft_add_eq_or_of_lt (show b < 2 ^ 7 from hb), Nat.shiftLeft_eq]

/-- little-endian 7-bit groups (`[]` for 0): what the `while` loop collects -/
def lsbGroups : Nat → List Nat
  | 0 => []
  | n + 1 => ((n + 1) % 128) :: lsbGroups ((n + 1) / 128)
decreasing_by omega

theorem src_vlq_loop1 : ∀ (v fuel : Nat), v ≤ fuel → ∀ bytes : List Int,
    Src.encode_variable_int.loop1 fuel (v : Int) bytes
      = .ok ((0 : Int), bytes ++ (lsbGroups v).map Int.ofNat) := by
  intro v
  fun_induction lsbGroups v with
  | case1 =>
    intro fuel _ bytes
    match fuel with
    | 0 | _ + 1 => simp [Src.encode_variable_int.loop1, pure, Except.pure]
  | case2 n ih =>
    intro fuel hf bytes
    match fuel, hf with
    | f + 1, hf =>
      have hne : ¬ (((n + 1 : Nat) : Int) = 0) := by omega
      rw [Src.encode_variable_int.loop1]
      simp only [bne_iff_ne, ne_eq, hne, not_false_eq_true, if_true, pure, Except.pure]
      rw [land_127, shrN_ofNat, shr7, ih f (by omega)]
      simp

theorem src_vlq_hi_loop (F : Int → List Int → Except Err (ForInStep (List Int)))
    (hF : ∀ i s, F i s = (do let v ← idx s i; let s' ← setIdx s i (lor v 128); pure (ForInStep.yield s')))
    (l pre t : List Nat) :
    forIn ((List.range' pre.length l.length).map Int.ofNat) ((pre ++ l ++ t).map Int.ofNat) F
      = .ok ((pre ++ l.map (· ||| 128) ++ t).map Int.ofNat) :=
  forIn_mapAt_ofNat (lor · 128) (· ||| 128) (fun x => lor_lit_right x 128) F hF l pre t

theorem encVlqAux_groups (n : Nat) : ∀ tail : List Nat,
    encVlqAux n tail = (lsbGroups n).reverse.map (· ||| 128) ++ tail := by
  fun_induction lsbGroups n with
  | case1 => simp [encVlqAux]
  | case2 k ih =>
    intro tail
    have e : (k + 1) % 128 + 128 = (k + 1) % 128 ||| 128 :=
      ((or128' 1 _ (Nat.mod_lt _ (by decide))).trans (Nat.add_comm _ _)).symm
    rw [encVlqAux, ih, e]
    simp

/-- `encode_variable_int`, as translated from the source, is the model's `encVlq` on every natural number -/
theorem src_encode_variable_int (v : Nat) :
    Src.encode_variable_int (v : Int) = .ok (natsToInts (encVlq v)) := by
  have hneg : ¬ ((v : Int) < 0) := by omega
  simp only [Src.encode_variable_int, hneg, Int.toNat_natCast, src_vlq_loop1 v v (Nat.le_refl _) [], pure,
    Except.pure, bind, Except.bind, Bool.not_true, decide_false, Bool.or_false, Bool.false_eq_true, if_false,
    List.nil_append]
  -- the `while` loop has collected `lsbGroups v` (`src_vlq_loop1`); reversed, all groups but the last (the lowest) get
  -- bit 7 (`src_vlq_hi_loop`); `encVlqAux_groups` says that this is `encVlq v`
  match v with
  | 0 => simp [lsbGroups, encVlq, encVlqAux, natsToInts]
  | k + 1 =>
    have hg : lsbGroups (k + 1) = ((k + 1) % 128) :: lsbGroups ((k + 1) / 128) := by rw [lsbGroups]
    generalize hgs : lsbGroups ((k + 1) / 128) = gs at hg
    have hloop := fun F hF => src_vlq_hi_loop F hF gs.reverse [] [(k + 1) % 128]
    have hr : rangeInt (len (List.map Int.ofNat (gs.reverse ++ [(k + 1) % 128])) - 1)
        = (List.range' 0 gs.reverse.length).map Int.ofNat := by
      simp [rangeInt, len, List.range_eq_range']
    simp only [List.length_nil, List.nil_append] at hloop
    simp only [hg, List.map_cons, List.isEmpty_cons, Bool.not_false, if_true, List.reverse_cons,
      ← List.map_reverse]
    rw [← List.map_singleton (f := Int.ofNat), ← List.map_append, hr, hloop]
    case hF => intro i s; rfl
    simp only [natsToInts, encVlq, encVlqAux_groups, hgs]

/-- negative values are refused with ValueError (the type test is resolved by the declared type) -/
theorem src_encode_variable_int_neg (v : Int) (h : v < 0) :
    Src.encode_variable_int v = .error .ValueError := by
  simp [Src.encode_variable_int, h, bind, Except.bind, throw, throwThe, MonadExceptOf.throw]

theorem vlq_step (acc b : Nat) :
    lor (shlN (acc : Int) 7) (land (b : Int) 127) = ((acc * 128 + b % 128 : Nat) : Int) := by
  rw [land_127]; exact shl7_lor acc (b % 128) (Nat.mod_lt b (by decide))

/-- what the first `for` loop of `decode_variable_int` does: bit 7 cleared in every item but the last -/
def loAllButLast : List Nat → List Nat
  | [] => []
  | [x] => [x]
  | x :: y :: r => ldiff x 128 :: loAllButLast (y :: r)

theorem land_inv128 (x : Nat) : land (x : Int) (inv 128) = ((ldiff x 128 : Nat) : Int) := rfl

theorem loAllButLast_snoc : ∀ (xs : List Nat) (z : Nat),
    loAllButLast (xs ++ [z]) = xs.map (fun x => ldiff x 128) ++ [z]
  | [], z | [x], z => rfl
  | x :: y :: r, z => by
    have ih := loAllButLast_snoc (y :: r) z
    simp only [List.cons_append] at ih ⊢
    rw [loAllButLast, ih]; simp

theorem src_vlq_lo_loop (F : Int → List Int → Except Err (ForInStep (List Int)))
    (hF : ∀ i s, F i s = (do let v ← idx s i; let s' ← setIdx s i (land v (inv 128)); pure (ForInStep.yield s'))) :
    ∀ (l pre : List Nat),
    forIn ((List.range' pre.length (l.length - 1)).map Int.ofNat) ((pre ++ l).map Int.ofNat) F
      = .ok ((pre ++ loAllButLast l).map Int.ofNat) := by
  intro l pre
  rcases List.eq_nil_or_concat l with rfl | ⟨xs, z, rfl⟩
  · rfl
  · have h := forIn_mapAt_ofNat (land · (inv 128)) (fun x => ldiff x 128) land_inv128 F hF xs pre [z]
    simpa only [List.concat_eq_append, List.length_append, List.length_singleton, Nat.add_sub_cancel,
      loAllButLast_snoc, List.append_assoc] using h

/-- the second loop, `val = (val << 7) | byte`: the big-endian base-128 value -/
def be128 : Nat → List Nat → Nat
  | acc, [] => acc
  | acc, b :: r => be128 (acc * 128 + b) r

theorem src_vlq_fold {l : List Nat} (acc : Nat) (h : ∀ b ∈ l, b < 128) :
    (l.map Int.ofNat).foldl (fun s i => lor (shlN s 7) i) (acc : Int) = ((be128 acc l : Nat) : Int) := by
  induction l generalizing acc with
  | nil => rfl
  | cons b r ih =>
    rw [List.map_cons, List.foldl_cons, Int.ofNat_eq_natCast, shl7_lor acc b (h b (List.mem_cons_self ..))]
    exact ih _ fun x hx => h x (List.mem_cons_of_mem _ hx)

theorem src_decode_variable_int_eq (xs : List Nat) :
    Src.decode_variable_int (natsToInts xs) =
      .ok (((loAllButLast xs).map Int.ofNat).foldl (fun s i => lor (shlN s 7) i) 0) := by
  unfold Src.decode_variable_int
  simp only [bind, Except.bind, pure, Except.pure]
  have hr : rangeInt (len (natsToInts xs) - 1) = (List.range' 0 (xs.length - 1)).map Int.ofNat := by
    simp only [rangeInt, len, natsToInts, List.length_map, List.range_eq_range']
    congr 2
    omega
  have hlo := fun F hF => src_vlq_lo_loop F hF xs []
  simp only [List.length_nil, List.nil_append] at hlo
  rw [hr]
  simp only [natsToInts]
  rw [hlo]
  · dsimp only
    rw [forIn_pure (fun i s => lor (shlN s 7) i) fun _ _ => rfl]
  · intro i s; rfl

theorem readVlqAcc_shape : ∀ (hi : List Nat) (last acc : Nat) (rest : List Nat),
    (∀ b ∈ hi, 128 ≤ b) → last < 128 →
    readVlqAcc acc (hi ++ [last] ++ rest) = .ok (be128 acc (hi.map (· % 128) ++ [last]), rest)
  | [], last, acc, rest, _, hl => by
    simp [readVlqAcc, hl, be128, Nat.mod_eq_of_lt hl]
  | b :: hi, last, acc, rest, hh, hl => by
    have hb : ¬ b < 128 := Nat.not_lt.mpr (hh b List.mem_cons_self)
    have ih := readVlqAcc_shape hi last (acc * 128 + b % 128) rest (fun x hx => hh x (by simp [hx])) hl
    simp only [List.cons_append, readVlqAcc, hb, if_false, List.map_cons, be128]
    simpa using ih

/-- `decode_variable_int`, as translated from the source, on the bytes of a variable-length quantity (continuation
    bytes 128..255, then one byte below 128): the value the model's `readVlq` reads from them -/
theorem src_decode_variable_int (hi : List Nat) (last : Nat) (hh : ∀ b ∈ hi, 128 ≤ b ∧ b < 256) (hl : last < 128) :
    ∃ v, readVlq (hi ++ [last]) = .ok (v, []) ∧
      Src.decode_variable_int (natsToInts (hi ++ [last])) = .ok (v : Int) := by
  refine ⟨be128 0 (hi.map (· % 128) ++ [last]), ?_, ?_⟩
  · simpa [readVlq] using readVlqAcc_shape hi last 0 [] (fun b hb => (hh b hb).1) hl
  · have hmask : hi.map (fun x => ldiff x 128) = hi.map (· % 128) :=
      List.map_congr_left fun b hb => ldiff_128 b (hh b hb).2
    have hlt : ∀ b ∈ hi.map (· % 128) ++ [last], b < 128 := by
      intro b hb
      simp only [List.mem_append, List.mem_map, List.mem_singleton] at hb
      rcases hb with ⟨x, _, rfl⟩ | rfl
      · omega
      · exact hl
    rw [src_decode_variable_int_eq, loAllButLast_snoc, hmask]
    exact congrArg _ (src_vlq_fold 0 hlt)

end Mido
