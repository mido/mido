/-
  Source tie for `parse_address` of mido/sockets.py (text as code points; `int()` is a parameter, instantiated by the model's
  reading of ASCII digits).
-/
import MidoModel.Generated.SrcSockets
import MidoModel.Socket
import MidoProofs.SrcTie.Basic
import MidoProofs.Props.C18
namespace Mido
open Mido.Py

/-- text as the list of its code points -/
def codes (cs : List Char) : List Int := cs.map (fun c => (c.toNat : Int))

theorem codes_inv (cs : List Char) : (codes cs).map (fun c => Char.ofNat c.toNat) = cs := by
  simp [codes, List.map_map, Function.comp_def, Char.ofNat_toNat]

theorem colon_code (c : Char) : ((c.toNat : Int) = 58) ↔ c = ':' :=
  ⟨fun h => by rw [← Char.ofNat_toNat c, show c.toNat = 58 by omega], fun h => h ▸ rfl⟩

theorem src_split_aux (s cur : List Char) :
    splitCodeAux 58 (codes cur) (codes s) = (splitColonAux cur s).map codes := by
  fun_induction splitColonAux cur s with
  | case1 cur => simp [splitCodeAux, codes, List.map_reverse]
  | case2 cur r ih =>
    simp only [codes, List.map_nil] at ih
    simp only [codes, List.map_cons, splitCodeAux, List.map_reverse, ih]
    rfl
  | case3 cur c r hc ih =>
    simpa only [codes, List.map_cons, splitCodeAux, colon_code, hc, if_false] using ih

theorem src_split (s : List Char) : splitCode 58 (codes s) = (splitColon s).map codes := by
  simpa [splitCode, splitColon, codes] using src_split_aux s []

/-- `int(text)` as the model reads it: non-empty ASCII digits -/
def modelInt (p : List Int) : Except Err Int :=
  match parseNat (p.map (fun c => Char.ofNat c.toNat)) with
  | some n => .ok (n : Int)
  | none => .error .ValueError

/-- **`parse_address`** of the source (`split(':')`, exactly two parts, `int()`, the range test) is the model's -/
theorem src_parse_address (s : List Char) :
    Src.parse_address (codes s) modelInt = (parseAddress s).map (fun r => (codes r.1, (r.2 : Int))) := by
  unfold Src.parse_address parseAddress
  rw [src_split]
  have hpow : pow 2 16 = .ok 65536 := by decide
  rcases splitColon s with _ | ⟨h, _ | ⟨p, _ | ⟨x, y⟩⟩⟩
  case cons.cons.nil =>
    -- the second `len(words) != 2`, for `host, port = words`
    have h2 : ((((0 + 1 + 1 : Nat) : Int) != 2) = true) = False := by simp
    simp only [List.map_cons, List.map_nil, len, List.length_cons, List.length_nil, idx_zero, idx_one, ok_bind, h2, if_false,
      hpow, modelInt, codes_inv]
    cases parseNat p with
    | none => rfl
    | some n =>
      simp only [mapErr, ok_bind, lit_lt_natCast, natCast_lt_lit, ← Bool.decide_and, Bool.not_eq_true', decide_eq_false_iff_not,
        ite_not]
      split <;> rfl
  case cons.cons.cons =>
    have : (((y.length + 1 + 1 + 1 : Nat) : Int) != 2) = true := by simp; omega
    simp only [List.map_cons, len, List.length_cons, List.length_map, this, if_true]
    rfl
  all_goals rfl

/-- **C18's address clause at the level of the source text**: the translated `parse_address` reads back every formatted
    host:port pair (host without a colon, port 1..65535) -/
theorem src_parse_format (h : List Char) (p : Nat) (hh : ∀ c ∈ h, c ≠ ':') (hp : 0 < p ∧ p < 65536) :
    Src.parse_address (codes (formatAddress h p)) modelInt = .ok (codes h, (p : Int)) := by
  rw [src_parse_address, C18_address h p hh hp]; rfl

example : Src.parse_address (codes "localhost:8080".toList) modelInt = .ok (codes "localhost".toList, 8080) := by decide +kernel
example : Src.parse_address (codes "h:65536".toList) modelInt = .error .ValueError ∧
    Src.parse_address (codes "a:b:1".toList) modelInt = .error .ValueError ∧
    Src.parse_address (codes "h:65535".toList) modelInt = .ok (codes "h".toList, 65535) := by decide +kernel

end Mido
