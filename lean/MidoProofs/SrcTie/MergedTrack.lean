/-
  Source tie for the property `MidiFile.merged_track` (mido/midifiles/midifiles.py): the type-2 refusal, then
  `merge_tracks` of the current tracks.
-/
import MidoModel.Generated.SrcFileIO
import MidoProofs.SrcTie.Tracks
namespace Mido
open Mido.Py

/-- **`MidiFile.merged_track`** of the source: TypeError for a type-2 file, otherwise the translated `merge_tracks` of the
    tracks the file holds at the moment of the access (nothing is remembered between accesses: the translation is a pure
    function of the two fields it reads) -/
theorem src_merged_track (ty : Int) (tracks : List (List TMsg)) :
    Src.MidiFile.merged_track ty tracks = if ty = 2 then .error .TypeError else Src.merge_tracks tracks := by
  simp only [Src.MidiFile.merged_track, beq_iff_eq]
  rfl

/-- about model tracks: the merge of C12 (all of `src_merge_property` applies to it), or the refusal -/
theorem src_merged_track_model (ty : Nat) (ts : List (List TEv)) :
    Src.MidiFile.merged_track (ty : Int) (ts.map (·.map TEv.toSrc)) =
      if ty = 2 then .error .TypeError else .ok ((mergeTracks ts).map TEv.toSrc) := by
  simp only [src_merged_track, src_merge_tracks, natCast_eq_lit]

example : Src.MidiFile.merged_track 2 [] = .error .TypeError := by decide +kernel

end Mido
