import MidoProofs.SrcTie.Basic
/-! What a translated `for` loop computes when its body has one of a few simple shapes; indexing behind a prefix. -/
namespace Mido.Py

theorem elem_pair {α} [BEq α] (a x y : α) : List.elem a [x, y] = (a == x || a == y) := by
  simp only [List.elem]; cases a == x <;> cases a == y <;> rfl

theorem idx_append_length {α} (pre : List α) (x : α) (t : List α) :
    idx (pre ++ x :: t) (pre.length : Int) = .ok x := by
  have h : ¬ ((pre.length : Int) < 0) := by omega
  simp [idx, h]

theorem setIdx_append_length {α} (pre : List α) (x : α) (t : List α) (v : α) :
    setIdx (pre ++ x :: t) (pre.length : Int) v = .ok (pre ++ v :: t) := by
  have h : ¬ ((pre.length : Int) < 0) := by omega
  simp [setIdx, h]
  omega

/-! Each loop lemma takes any body `F` with an equation `hF`: the translator's body and the one a lemma would name may
  differ in the auxiliary `match` functions the elaborator generated; `fun _ _ => rfl` bridges that. -/

theorem forIn_cons_yield {ε α σ : Type} {F : α → σ → Except ε (ForInStep σ)} {x : α} {s s' : σ}
    (h : F x s = .ok (.yield s')) (l : List α) : forIn (x :: l) s F = forIn l s' F := by
  rw [List.forIn_cons, h]; rfl

/-- `for x in l: if p(x): raise e` -/
theorem forIn_guard {α : Type} (p : α → Bool) (e : Err) (F : α → PUnit → Except Err (ForInStep PUnit))
    (hF : ∀ a s, F a s = if p a = true then .error e else .ok (.yield PUnit.unit)) :
    ∀ l : List α, forIn l PUnit.unit F = if l.any p = true then .error e else .ok PUnit.unit
  | [] => rfl
  | a :: l => by
    rw [List.forIn_cons, hF, List.any_cons]
    cases p a
    · exact forIn_guard p e F hF l
    · rfl

theorem forIn_pure {α σ : Type} (g : α → σ → σ) {F : α → σ → Except Err (ForInStep σ)}
    (hF : ∀ a s, F a s = .ok (.yield (g a s))) :
    ∀ (l : List α) (s : σ), forIn l s F = .ok (l.foldl (fun s a => g a s) s)
  | [], _ => rfl
  | a :: l, s => (forIn_cons_yield (hF a s) l).trans (forIn_pure g hF l (g a s))

/-- `for i in range(k, k + n): s[i] = G(s[i])` -/
theorem forIn_mapAt_ofNat (G : Int → Int) (g : Nat → Nat) (hG : ∀ x : Nat, G x = g x)
    (F : Int → List Int → Except Err (ForInStep (List Int)))
    (hF : ∀ i s, F i s = (do let v ← idx s i; let s' ← setIdx s i (G v); pure (ForInStep.yield s'))) :
    ∀ (l pre t : List Nat),
      forIn ((List.range' pre.length l.length).map Int.ofNat) ((pre ++ l ++ t).map Int.ofNat) F
        = .ok ((pre ++ l.map g ++ t).map Int.ofNat)
  | [], _, _ => rfl
  | x :: r, pre, t => by
    have ih := forIn_mapAt_ofNat G g hG F hF r (pre ++ [g x]) t
    have hl : (pre.length : Int) = (pre.map Int.ofNat).length := by rw [List.length_map]
    simp only [List.length_append, List.length_cons, List.length_nil, List.append_assoc, List.cons_append,
      List.nil_append, List.map_append, List.map_cons] at ih
    simp only [List.length_cons, List.range'_succ, List.map_cons, List.map_append, List.forIn_cons, hF, List.append_assoc,
      List.cons_append, Int.ofNat_eq_natCast, hl, idx_append_length, setIdx_append_length, hG, bind, Except.bind, pure,
      Except.pure]
    exact ih

end Mido.Py
