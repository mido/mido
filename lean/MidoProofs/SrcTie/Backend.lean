/-
  Source tie for mido/backends/backend.py; the process environment, the backend module and its classes are parameters.
  `open_ioport` is tied to `ioportRun`; that it constructs C20's `ioportSpec` is seen by reading the two side by side.
-/
import MidoModel.Generated.SrcBackend
import MidoProofs.Props.C20
namespace Mido
open Mido.Py

/-- the model's device triples as the dicts a backend module reports -/
def devOf (devs : List (String × Bool × Bool)) : List Device := devs.map (fun d => ⟨d.1, d.2.1, d.2.2⟩)

theorem devOf_filter (p : Device → Bool) (devs : List (String × Bool × Bool)) :
    List.map (fun (d : Device) => d.name) (List.filter p (devOf devs)) =
      (devs.filter (fun d => p ⟨d.1, d.2.1, d.2.2⟩)).map (·.1) := by
  rw [devOf, List.filter_map, List.map_map]; rfl

theorem devOf_filter_in (devs : List (String × Bool × Bool)) :
    List.map (fun (d : Device) => d.name) (List.filter (fun d => d.is_input) (devOf devs)) = (devs.filter (·.2.1)).map (·.1) :=
  devOf_filter _ devs

theorem devOf_filter_out (devs : List (String × Bool × Bool)) :
    List.map (fun (d : Device) => d.name) (List.filter (fun d => d.is_output) (devOf devs)) = (devs.filter (·.2.2)).map (·.1) :=
  devOf_filter _ devs

/-- the keyword dict of a call that passed `api=a` (`some a`) or no `api` at all (`none`) -/
def kwOfCall (callApi : Option (Option String)) : KwArgs :=
  match callApi with | some a => [("api", a)] | none => []

/-- the `api` a port constructor / device query of the recording module sees (absent and None are the same to it) -/
def kwApi (kw : KwArgs) : Option String :=
  match kw.find? (fun p => p.1 == "api") with | some p => p.2 | none => none

theorem optStrTruthy_truthy (s : Option String) : optStrTruthy s = (truthy s).isSome := by
  cases s with
  | none => rfl
  | some x => simp only [optStrTruthy, truthy]; cases x.isEmpty <;> rfl

theorem src_add_api_eq (api : Option String) (kw : KwArgs) :
    Src.Backend._add_api api kw = .ok (if optStrTruthy api && !kwHas kw "api" then kwSet kw "api" api else kw) := by
  by_cases h : (optStrTruthy api && !kwHas kw "api") = true <;> simp [Src.Backend._add_api, h, pure, Except.pure]

theorem kwHas_kwSet (kw : KwArgs) (k : String) (v : Option String) : kwHas (kwSet kw k v) k = true := by
  unfold kwSet
  split
  · next h =>
    simp only [kwHas, List.any_eq_true] at h ⊢
    obtain ⟨p, hp, hk⟩ := h
    exact ⟨_, List.mem_map_of_mem hp, by simp [hk]⟩
  · simp [kwHas]

theorem src_add_api_idem {api : Option String} {kw kw' : KwArgs} (h : Src.Backend._add_api api kw = .ok kw') :
    Src.Backend._add_api api kw' = .ok kw' := by
  rw [src_add_api_eq] at h ⊢
  cases Except.ok.inj h
  by_cases c : (optStrTruthy api && !kwHas kw "api") = true <;> simp [c, kwHas_kwSet]

/-- **`_add_api`** of the source: the call's own `api=` keyword wins (also `api=None`), otherwise the backend's API is
    injected when it is truthy — the model's `addApi`; nothing else in the keyword dict is touched -/
theorem src_add_api (b : Backend) (callApi : Option (Option String)) :
    ∃ kw, Src.Backend._add_api b.api (kwOfCall callApi) = .ok kw ∧ kwApi kw = b.addApi callApi := by
  refine ⟨_, src_add_api_eq _ _, ?_⟩
  cases callApi with
  | some a => simp [kwOfCall, kwHas, kwApi, Backend.addApi]
  | none =>
    cases hb : b.api with
    | none => simp [kwOfCall, kwHas, kwApi, Backend.addApi, truthy, optStrTruthy, hb]
    | some x => cases hx : x.isEmpty <;> simp [kwOfCall, kwHas, kwSet, kwApi, Backend.addApi, truthy, optStrTruthy, hb, hx]

theorem src_add_api_others (api : Option String) (kw : KwArgs) (k : String) (hk : k ≠ "api") :
    ∃ kw', Src.Backend._add_api api kw = .ok kw' ∧ kw'.filter (fun p => p.1 == k) = kw.filter (fun p => p.1 == k) := by
  refine ⟨_, src_add_api_eq api kw, ?_⟩
  split
  · next h =>
    have hn : kwHas kw "api" = false := by simp at h; exact h.2
    simp [kwSet, hn, beq_false_of_ne hk.symm]
  · rfl

/-- **`_env`** of the source (the process environment a parameter): the variable when `use_environ` is on, else None — the
    model's `envVar` -/
theorem src_env (b : Backend) (name : String) (environ_get : String → Option String) :
    Src.Backend._env b.useEnviron name environ_get = .ok (b.envVar (environ_get name)) := by
  unfold Src.Backend._env Backend.envVar
  cases b.useEnviron <;> rfl

/-- the name a port is opened under: the explicit one, else the environment variable (when `use_environ` is on) -/
def effName (b : Backend) (name : Option String) (v : Option String) : Option String :=
  match name with | some x => some x | none => b.envVar v

/-- **`open_input`** of the source (the process environment and the module's `Input` class parameters): the class is called
    exactly once, with the explicit name — or, when none was given, `MIDO_DEFAULT_INPUT` if `use_environ` is on, else None —
    and with a keyword dict whose `api` is the model's `addApi`; what the class returns or raises is what the call returns or
    raises -/
theorem src_open_input {P : Type} (b : Backend) (name : Option String) (callApi : Option (Option String))
    (environ_get : String → Option String) (ctor : Option String → KwArgs → Except Err P) :
    ∃ kw, Src.Backend.open_input b.api b.useEnviron name (kwOfCall callApi) environ_get ctor =
        ctor (effName b name (environ_get "MIDO_DEFAULT_INPUT")) kw ∧ kwApi kw = b.addApi callApi := by
  obtain ⟨kw, hkw, hapi⟩ := src_add_api b callApi
  refine ⟨kw, ?_, hapi⟩
  simp only [Src.Backend.open_input, src_env, hkw, ok_bind]
  cases name <;> rfl

theorem src_open_output {P : Type} (b : Backend) (name : Option String) (callApi : Option (Option String))
    (environ_get : String → Option String) (ctor : Option String → KwArgs → Except Err P) :
    ∃ kw, Src.Backend.open_output b.api b.useEnviron name (kwOfCall callApi) environ_get ctor =
        ctor (effName b name (environ_get "MIDO_DEFAULT_OUTPUT")) kw ∧ kwApi kw = b.addApi callApi := by
  obtain ⟨kw, hkw, hapi⟩ := src_add_api b callApi
  refine ⟨kw, ?_, hapi⟩
  simp only [Src.Backend.open_output, src_env, hkw, ok_bind]
  cases name <;> rfl

example : Src.Backend.open_input (some "ALSA") true none [] (fun v => if v == "MIDO_DEFAULT_INPUT" then some "in1" else none)
    (fun n kw => Except.ok (n, kwApi kw)) = .ok (some "in1", some "ALSA") := by decide +kernel

example : Src.Backend.open_input (some "ALSA") true (some "p") [("api", none)] (fun _ => some "in1")
    (fun n kw => Except.ok (n, kwApi kw)) = .ok (some "p", none) := by decide +kernel

/-- what `open_ioport` does with the classes of the module, given the keyword dict it passes on -/
def ioportRun {P : Type} (b : Backend) (name : Option String) (environ_get : String → Option String) (hasIO : Bool)
    (io inp out : Option String → KwArgs → Except Err P) (wrap : P → P → P) (kw : KwArgs) : Except Err P :=
  let eff := match name with | some x => some x | none => optStrOrNone (b.envVar (environ_get "MIDO_DEFAULT_IOPORT"))
  if hasIO then io eff kw
  else
    let i := if optStrTruthy eff then eff else b.envVar (environ_get "MIDO_DEFAULT_INPUT")
    let o := if optStrTruthy eff then eff else b.envVar (environ_get "MIDO_DEFAULT_OUTPUT")
    match inp i kw with
    | .error e => .error e
    | .ok a => match out o kw with
      | .error e => .error e
      | .ok c => .ok (wrap a c)

theorem pair_eq_bind {P : Type} (x y : Except Err P) (wrap : P → P → P) :
    (match x with
      | .error e => .error e
      | .ok a => match y with
        | .error e => .error e
        | .ok c => .ok (wrap a c)) = (do let a ← x; let c ← y; pure (wrap a c)) := by
  cases x <;> cases y <;> rfl

/-- **`open_ioport`** of the source: the module's native `IOPort` when it has one — under the explicit name, else
    `MIDO_DEFAULT_IOPORT` ('' counting as unset) — otherwise `Input` then `Output` (in this order; the second is not built
    when the first fails) under that name, or under `MIDO_DEFAULT_INPUT` / `MIDO_DEFAULT_OUTPUT` when there is none, wrapped
    by `ports.IOPort`; every class gets a keyword dict whose `api` is the model's `addApi` -/
theorem src_open_ioport {P : Type} (b : Backend) (name : Option String) (callApi : Option (Option String))
    (environ_get : String → Option String) (hasIO : Bool) (io inp out : Option String → KwArgs → Except Err P) (wrap : P → P → P) :
    ∃ kw, kwApi kw = b.addApi callApi ∧
      Src.Backend.open_ioport b.api b.useEnviron name (kwOfCall callApi) environ_get hasIO io inp out wrap =
        ioportRun b name environ_get hasIO io inp out wrap kw := by
  obtain ⟨kw, hkw, hapi⟩ := src_add_api b callApi
  refine ⟨kw, hapi, ?_⟩
  unfold Src.Backend.open_ioport ioportRun
  simp only [pair_eq_bind, hkw, src_env, ok_bind]
  cases name <;> cases hasIO
  · cases optStrTruthy (optStrOrNone (b.envVar (environ_get "MIDO_DEFAULT_IOPORT"))) <;> rfl
  · rfl
  · next x => cases optStrTruthy (some x) <;> rfl
  · rfl

theorem optStrOrNone_truthy (s : Option String) : optStrOrNone s = truthy s := rfl

example : Src.Backend.open_ioport (some "ALSA") true none [] (fun v => if v == "MIDO_DEFAULT_IOPORT" then some "" else some (v ++ "!"))
    false (fun n kw => Except.ok [("io", n, kwApi kw)]) (fun n kw => Except.ok [("in", n, kwApi kw)]) (fun n kw => Except.ok [("out", n, kwApi kw)])
    (· ++ ·) = .ok [("in", some "MIDO_DEFAULT_INPUT!", some "ALSA"), ("out", some "MIDO_DEFAULT_OUTPUT!", some "ALSA")] := by decide +kernel

theorem src_add_api_twice (b : Backend) (callApi : Option (Option String)) :
    ∃ kw, Src.Backend._add_api b.api (kwOfCall callApi) = .ok kw ∧ Src.Backend._add_api b.api kw = .ok kw ∧
      kwApi kw = b.addApi callApi :=
  let ⟨kw, h, hapi⟩ := src_add_api b callApi
  ⟨kw, h, src_add_api_idem h, hapi⟩

/-- **`_get_devices`** of the source: the module's `get_devices` is asked once, with a keyword dict whose `api` is the model's
    `addApi`; a module without `get_devices` has no devices -/
theorem src_get_devices (b : Backend) (callApi : Option (Option String)) (has : Bool) (gd : KwArgs → Except Err (List Device)) :
    ∃ kw, kwApi kw = b.addApi callApi ∧ Src.Backend._add_api b.api (kwOfCall callApi) = .ok kw ∧
      Src.Backend._get_devices b.api kw has gd = if has then gd kw else .ok [] := by
  obtain ⟨kw, h1, h2, hapi⟩ := src_add_api_twice b callApi
  refine ⟨kw, hapi, h1, ?_⟩
  simp only [Src.Backend._get_devices, h2, ok_bind]
  rfl

/-- **the three name listings** of the source are the model's `namesSpec` of the module's device list: input names and
    output names in device order, I/O names = the input names that are also output names, in input order (duplicates
    kept) — `C20_names` states the same about the hand model; the device query carries the API (`src_get_devices`) -/
theorem src_names (b : Backend) (env : BEnv) (callApi : Option (Option String)) :
    Src.Backend.get_input_names b.api (kwOfCall callApi) true (fun _ => .ok (devOf env.devices)) = .ok (namesSpec env .inputs) ∧
    Src.Backend.get_output_names b.api (kwOfCall callApi) true (fun _ => .ok (devOf env.devices)) = .ok (namesSpec env .outputs) ∧
    Src.Backend.get_ioport_names b.api (kwOfCall callApi) true (fun _ => .ok (devOf env.devices)) = .ok (namesSpec env .ioports) := by
  obtain ⟨kw, _, h1, hg⟩ := src_get_devices b callApi true (fun _ => .ok (devOf env.devices))
  simp only [Src.Backend.get_input_names, Src.Backend.get_output_names, Src.Backend.get_ioport_names, bind, Except.bind, pure,
    Except.pure, h1, hg, if_true, devOf_filter_in, devOf_filter_out, namesSpec, List.map_id', and_self]

/-- the query the listings make: exactly the one of `_get_devices` — it carries the API, and its failure is the listing's -/
theorem src_names_query (b : Backend) (callApi : Option (Option String)) (has : Bool) (gd : KwArgs → Except Err (List Device)) :
    ∃ kw, kwApi kw = b.addApi callApi ∧
      Src.Backend.get_input_names b.api (kwOfCall callApi) has gd =
        (if has then gd kw else .ok []).map (fun ds => List.map (fun (d : Device) => d.name) (List.filter (fun d => d.is_input) ds)) := by
  obtain ⟨kw, hapi, h1, hg⟩ := src_get_devices b callApi has gd
  refine ⟨kw, hapi, ?_⟩
  simp only [Src.Backend.get_input_names, h1, hg, ok_bind]
  exact (map_eq_pure_bind ..).symm

example : Src.Backend.get_ioport_names (some "ALSA") [] true
    (fun kw => if kwApi kw == some "ALSA" then .ok (devOf [("a", true, false), ("b", true, true), ("c", false, true), ("b", true, true)]) else .ok []) =
    .ok ["b", "b"] := by decide +kernel

end Mido
