/-
  Source tie for mido/parser.py: the Parser class (a Tokenizer held in a field, the decode loop over the tokenizer's
  generator, `get_message` as `for … else` over the parser's own generator), translated from the source text, against
  the model's `PState` operations.
-/
import MidoModel.Generated.SrcParser
import MidoProofs.SrcTie.Tok
import MidoProofs.Props.C05
namespace Mido
open Mido.Py

/-- `Message.from_bytes` as the parser calls it: the model's decoder (tied to the source text by
    `src_decode_message`, C01/C02); `mkSysex`, `buildMeta` are never called -/
def parserExt : ReaderExt Msg :=
  { fromBytes := fun bs _ => decodeInts bs, mkSysex := fun _ _ => .error .Other, buildMeta := fun _ _ _ => .error .Other,
    isSysex := fun m => match m with | .sysex _ => true | _ => false,
    bin := fun m => .ok ((encode m).map Int.ofNat),
    hex := fun m => .ok ((toHex (encode m)).map (fun c => (c.toNat : Int))) }

def PState.toSrc (p : PState) : Src.Parser Msg := { messages := p.queue, _tok := p.tok.toSrc }

@[simp] theorem parserExt_fromBytes (bs : List Int) (t : Int) : parserExt.fromBytes bs t = decodeInts bs := rfl

/-- the decode loop: every token is popped and decoded in order; the first failing one raises -/
theorem src_parser_loop (toks : List (List Nat)) (fuel : Nat) (hf : toks.length < fuel) (q : List Msg) (t : Tok) :
    Src.Parser._decode.loop1 parserExt fuel { messages := q, _tok := ({ t with out := toks } : Tok).toSrc } =
      match decodeTokens toks with
      | .ok ms => .ok { messages := q ++ ms, _tok := ({ t with out := [] } : Tok).toSrc }
      | .error e => .error e := by
  induction toks generalizing fuel q with
  | nil =>
    cases fuel with
    | zero => omega
    | succ f => simp [Src.Parser._decode.loop1, Tok.toSrc, len, decodeTokens, pure, Except.pure]
  | cons tk rest ih =>
    cases fuel with
    | zero => simp at hf
    | succ f =>
      have hf' : rest.length < f := by simpa using hf
      simp only [Src.Parser._decode.loop1, Tok.toSrc, len, List.map_cons, List.length_cons, decodeTokens]
      have hne : ¬ ((rest.length : Int) + 1 = 0) := by omega
      simp [bind, Except.bind, decodeInts_ofNat, pure, Except.pure, hne]
      cases decodeNats tk with
      | error e => rfl
      | ok m => exact (ih f hf' (q ++ [m])).trans (by cases decodeTokens rest <;> simp [Tok.toSrc])

/-- `Parser._decode` is the model's `decodeAll` -/
theorem src_parser_decode (p : PState) :
    Src.Parser._decode parserExt p.toSrc =
      match p.decodeAll with
      | (p', none) => .ok p'.toSrc
      | (_, some e) => .error e := by
  have h := src_parser_loop p.tok.out (p.tok.out.length + 1) (by omega) p.queue p.tok
  simp only [Src.Parser._decode, PState.toSrc, PState.decodeAll, bind, Except.bind, pure, Except.pure]
  have e1 : (Tok.toSrc p.tok)._messages.length = p.tok.out.length := by simp [Tok.toSrc]
  rw [show ({ p.tok with out := p.tok.out } : Tok) = p.tok from rfl] at h
  rw [e1, h]
  cases decodeTokens p.tok.out <;> rfl

/-- `Parser.feed(data)` is the model's `feed` operation: the state afterwards and what is raised -/
theorem src_parser_feed (p : PState) (bs : List Int) :
    Src.Parser.feed parserExt p.toSrc bs =
      match p.feedOp bs with
      | (p', .raised e) => .error e
      | (p', _) => .ok p'.toSrc := by
  simp only [Src.Parser.feed, PState.feedOp, bind, Except.bind]
  rw [show (PState.toSrc p)._tok = p.tok.toSrc from rfl, src_feed p.tok bs]
  cases hfc : feedChecked p.tok bs with
  | mk t' eo =>
    cases eo with
    | some e => rfl
    | none =>
      simp only []
      rw [show ({ (PState.toSrc p) with _tok := t'.toSrc } : Src.Parser Msg) = PState.toSrc { p with tok := t' } from rfl,
        src_parser_decode]
      rcases PState.decodeAll { p with tok := t' } with ⟨p2, _ | e2⟩ <;> rfl

theorem Src.Tokenizer.feed_singleton (t : Src.Tokenizer) (b : Int) : Src.Tokenizer.feed t [b] = Src.Tokenizer.feed_byte t b := by
  simp only [Src.Tokenizer.feed, List.forIn_cons, List.forIn_nil]
  cases Src.Tokenizer.feed_byte t b <;> rfl

theorem src_parser_feed_byte (p : PState) (b : Int) :
    Src.Parser.feed_byte parserExt p.toSrc b =
      match p.feedOp [b] with
      | (p', .raised e) => .error e
      | (p', _) => .ok p'.toSrc := by
  rw [← src_parser_feed]
  simp only [Src.Parser.feed_byte, Src.Parser.feed, Src.Tokenizer.feed_singleton]

/-- `Parser.get_message()` (a `for … else` over the parser's own generator) is the model's `get` -/
theorem src_parser_get (p : PState) :
    Src.Parser.get_message parserExt p.toSrc =
      match pstep p .get with
      | (p', .msg m) => .ok (some m, p'.toSrc)
      | (p', _) => .ok (none, p'.toSrc) := by
  cases hq : p.queue <;>
    simp [Src.Parser.get_message, Src.Parser.get_message.loop1, PState.toSrc, pstep, hq, len, bind, Except.bind,
      pure, Except.pure]

/-- `Parser.pending()` / `len(parser)` -/
theorem src_parser_pending (p : PState) :
    Src.Parser.pending parserExt p.toSrc = .ok ((p.queue.length : Int), p.toSrc) := by
  simp [Src.Parser.pending, PState.toSrc, len, pure, Except.pure]

theorem inByte_natsToInts (bs : List Nat) (h : ∀ b ∈ bs, b < 256) : (natsToInts bs).all inByte = true := by
  simp only [natsToInts, List.all_map, List.all_eq_true]
  intro b hb
  have := h b hb
  simp [inByte]; omega

/-- feeding a whole byte string to a fresh translated parser: the queue holds `parseAll` of it -/
theorem src_fresh_feed (bs : List Nat) (h : ∀ b ∈ bs, b < 256) :
    Src.Parser.feed parserExt ({ messages := [], _tok := {} } : Src.Parser Msg) (natsToInts bs) =
      match parseAll bs with
      | .ok ms => .ok { messages := ms, _tok := ({ (Tok.feed {} bs) with out := [] } : Tok).toSrc }
      | .error e => .error e := by
  rw [show ({ messages := [], _tok := {} } : Src.Parser Msg) = ({} : PState).toSrc from rfl, src_parser_feed]
  simp only [PState.feedOp, feedChecked_valid (inByte_natsToInts bs h),
    show (natsToInts bs).map Int.toNat = bs from intsToNats_natsToInts bs, PState.decodeAll]
  rw [show decodeTokens (Tok.feed {} bs).out = parseAll bs from rfl]
  cases parseAll bs <;> rfl

example : (Src.Parser.feed parserExt ({} : PState).toSrc [0x90, 60, 100, 0xF8, 0x91, 61]).map (fun p => (p.messages, p._tok._bytes)) =
    .ok ([.chan3 .note_on 0 60 100, .sys1 .clock], [0x91, 61]) := by decide +kernel

example : (Src.Parser.feed parserExt ({} : PState).toSrc [0x90, 300]).toOption.isNone = true := by decide +kernel

end Mido
