/-
  The ports tie and the C11 lifecycle theorems composed.
-/
import MidoProofs.SrcTie.Ports
import MidoProofs.Props.C11
namespace Mido
open Mido.Py

/-- **C11 at the level of the source text**: `close()` of the translated port code is idempotent — a second call changes
    nothing and releases nothing — and after it `send` is refused with ValueError, for every port state, device script
    and fault budget -/
theorem src_close_idem (p : Port) :
    Src.BasePort.close modelPortExt (Src.BasePort.close modelPortExt p.toSrc).2 = (.ok (), (Src.BasePort.close modelPortExt p.toSrc).2) ∧
    (p.kind = .dev → p.closed = false →
      closeCount (portOfSrc (Src.BasePort.close modelPortExt (Src.BasePort.close modelPortExt p.toSrc).2).2) = closeCount p + 1) ∧
    ∀ id, (Src.BaseOutput.send modelPortExt id (Src.BasePort.close modelPortExt p.toSrc).2).1 = .error .ValueError := by
  have h1 := src_port_close p
  have h2 := src_port_close p.close
  rw [C11_close_idem] at h2
  refine ⟨by rw [h1]; exact h2, ?_, ?_⟩
  · intro hk ho
    simp only [h1, h2, portOfSrc_toSrc]
    exact (C11_release_once p hk ho).1
  · intro id
    simp only [h1, src_port_send, C11_send_after_close p.close (close_closed p) id]

end Mido
