import MidoProofs.SrcTie.MetaFrame
import MidoProofs.Props.C09
namespace Mido
open Mido.Py

/-- **C09 at the level of the source text**: for every checked meta message in normal form whose payload the spec can
    encode, the translated `bytes()` (given that payload) produces `FF type VLQ(len) payload`, all bytes, and the translated
    `from_bytes` run on exactly those bytes gives back the message -/
theorem src_meta_roundtrip (cs : Charset) (m : MetaMsg) (hc : m.check = .ok ()) (hn : m.normal = true)
    (p : List Nat) (hp : metaPayload cs m = .ok p) :
    ∃ bs, metaBytes cs m = .ok bs ∧
      Src.MetaMessage.bytes (m.ty.typeByte : Int) (.ok (natsToInts p)) = .ok (natsToInts bs) ∧
      Src.MetaMessage.from_bytes (metaExt cs) (natsToInts bs) = .ok (.known m) := by
  have hb : metaBytes cs m = .ok ([0xff, m.ty.typeByte] ++ encVlq p.length ++ p) := bind_eq_ok.mpr ⟨p, hp, rfl⟩
  refine ⟨_, hb, ?_, ?_⟩
  · rw [src_meta_bytes]
    simp [natsToInts]
  · obtain ⟨hrt, hbytes⟩ := C09_roundtrip_partial cs m hc hn _ hb
    exact (src_meta_from_bytes_model cs _ hbytes).trans hrt

end Mido
