import MidoModel.Smf
import MidoModel.Generated.SrcFileIO
import MidoProofs.Lemmas.SmfLen
import MidoProofs.SrcTie.VlqRead
import MidoProofs.SrcTie.SpecTable
/-!
  Source tie, MIDI file reader: `read_*` and `MidiFile._load` of `mido/midifiles/midifiles.py` (Generated/SrcFileIO.lean)
  against the model's readers.  The message constructors they call are a parameter `ext` of the translation,
  instantiated by the model's rendering `modelExt` (tied by C01/C02/C09).
  Each reader is tied in the form `…_at` first: on `fileAt T bs`, the file of total length `T` with `bs` still unread, where no
  position arithmetic is needed (`atFile`, SrcTie/VlqRead); the statement on `mkFile bs p`, with the position after the call
  written out, is its instance `T := p + bs.length`.
-/
namespace Mido
open Mido.Py

/-- the translated functions ask `[Inhabited M]`: `let mut msg` starts from `default` -/
instance : Inhabited LEvent := ⟨⟨.msg (.sys1 .clock), 0⟩⟩

/-- the model's rendering of the message constructors the reader calls -/
def modelExt (cs : Charset) : ReaderExt LEvent where
  buildMeta ty data t :=
    match buildMeta cs ty.toNat (intsToNats data) with
    | .ok (.known m) => .ok ⟨.metaEv m, t.toNat⟩
    | .ok (.unknown tb d) => .ok ⟨.unknownMeta tb d, t.toNat⟩
    | .error e => .error e
  mkSysex data t :=
    if (intsToNats data).all (· ≤ 127) then .ok ⟨.msg (.sysex (intsToNats data)), t.toNat⟩ else .error .ValueError
  fromBytes bs t :=
    match decodeNats (intsToNats bs) with
    | .ok m => .ok ⟨.msg m, t.toNat⟩
    | .error e => .error e

theorem src_read_bytes_at (T : Int) (bs : List Nat) (size : Int) :
    Src.read_bytes (fileAt T bs) size = atFile T natsToInts (readBytes size.toNat bs) := by
  unfold Src.read_bytes readBytes atFile readN
  simp only [length_rest_fileAt, ite_bind, decide_eq_true_eq]
  refine ite_congr (propext (by simp only [maxMessageLength]; omega)) (fun _ => rfl) fun _ =>
    ite_congr rfl (fun _ => rfl) fun h2 => ?_
  simp only [fileAt, mkFile, natsToInts, ok_bind, List.map_take, List.map_drop, List.length_drop, pure, Except.pure]
  congr 3
  omega

theorem src_read_bytes (bs : List Nat) (p : Int) (size : Int) :
    Src.read_bytes (mkFile bs p) size =
      match readBytes size.toNat bs with
      | .ok (d, r) => .ok (natsToInts d, mkFile r (p + bs.length - r.length))
      | .error e => .error e := by
  rw [mkFile_eq_fileAt, src_read_bytes_at]
  rcases readBytes size.toNat bs with _ | ⟨d, r⟩ <;> rfl

theorem stripF0_ints (d : List Nat) :
    (if (List.head? (natsToInts d) == some (240 : Int)) = true then sliceFrom (natsToInts d) 1 else natsToInts d)
      = natsToInts (stripF0 d) := by
  have h : (List.head? (natsToInts d) == some (240 : Int)) = (d.head? == some 240) := by
    rw [natsToInts, List.head?_map]; exact optMap_natCast_beq _ (some 240)
  rw [h]
  match d with
  | [] => rfl
  | x :: r =>
    by_cases hx : x = 240
    · subst hx; rfl
    · simp [hx, stripF0]

theorem dropLast_ints (d : List Nat) :
    (if (List.getLast? (natsToInts d) == some (247 : Int)) = true then sliceDropLast (natsToInts d) 1 else natsToInts d)
      = natsToInts (if d.getLast? = some 0xf7 then d.dropLast else d) := by
  have h : (List.getLast? (natsToInts d) == some (247 : Int)) = (d.getLast? == some 247) := by
    rw [natsToInts, List.getLast?_map]; exact optMap_natCast_beq _ (some 247)
  rw [h]
  by_cases hl : d.getLast? = some 0xf7
  · simp [hl, sliceDropLast, natsToInts, List.dropLast_eq_take, List.map_take]
  · simp [hl]

theorem clip_ints (d : List Nat) :
    List.map (fun byte : Int => if decide (byte < 127) = true then byte else 127) (natsToInts d)
      = natsToInts (d.map clipByte) := by
  simp only [natsToInts, List.map_map]
  apply List.map_congr_left
  intro x _
  simp only [Function.comp, clipByte, Int.ofNat_eq_natCast, natCast_lt_lit, decide_eq_true_eq]
  split <;> rfl

theorem mkSysex_model (cs : Charset) (δ : Nat) (d : List Nat) :
    (modelExt cs).mkSysex (natsToInts d) (δ : Int) =
      if d.all (· ≤ 127) = true then .ok ⟨.msg (.sysex d), δ⟩ else .error .ValueError := by
  simp [modelExt]

theorem src_read_sysex_at (cs : Charset) (T : Int) (bs : List Nat) (δ : Nat) (clip : Bool) :
    Src.read_sysex (modelExt cs) (fileAt T bs) (δ : Int) clip = atFile T (⟨·, δ⟩) (readSysex clip bs) := by
  unfold Src.read_sysex readSysex
  simp only [src_read_variable_int_at, atFile_bind, src_read_bytes_at, Int.toNat_natCast, atFile_of_bind]
  refine bind_congr fun p => bind_congr fun p2 => ?_
  simp only [stripF0_ints, dropLast_ints]
  cases clip <;> simp only [Bool.false_eq_true, if_false, if_true, clip_ints, mkSysex_model, atFile, ite_bind] <;> rfl

theorem src_read_sysex (cs : Charset) (bs : List Nat) (p : Int) (δ : Nat) (clip : Bool) :
    Src.read_sysex (modelExt cs) (mkFile bs p) (δ : Int) clip =
      match readSysex clip bs with
      | .ok (ev, r) => .ok (⟨ev, δ⟩, mkFile r (p + bs.length - r.length))
      | .error e => .error e := by
  rw [mkFile_eq_fileAt, src_read_sysex_at]
  rcases readSysex clip bs with _ | ⟨ev, r⟩ <;> rfl

theorem src_read_meta_message_at (cs : Charset) (T : Int) (bs : List Nat) (δ : Nat) :
    Src.read_meta_message (modelExt cs) (fileAt T bs) (δ : Int) = atFile T (⟨·, δ⟩) (readMeta cs bs) := by
  unfold Src.read_meta_message readMeta
  cases bs with
  | nil => rfl
  | cons ty r0 =>
    simp only [readByte_fileAt, ok_bind, src_read_variable_int_at, atFile_bind, src_read_bytes_at, Int.toNat_natCast,
      atFile_of_bind]
    refine bind_congr fun p => bind_congr fun p2 => ?_
    simp only [modelExt, Int.toNat_natCast, intsToNats_natsToInts]
    cases buildMeta cs ty p2.1 with
    | error e => rfl
    | ok me => cases me <;> rfl

theorem src_read_meta_message (cs : Charset) (bs : List Nat) (p : Int) (δ : Nat) :
    Src.read_meta_message (modelExt cs) (mkFile bs p) (δ : Int) =
      match readMeta cs bs with
      | .ok (ev, r) => .ok (⟨ev, δ⟩, mkFile r (p + bs.length - r.length))
      | .error e => .error e := by
  rw [mkFile_eq_fileAt, src_read_meta_message_at]
  rcases readMeta cs bs with _ | ⟨ev, r⟩ <;> rfl

theorem any_gt_natsToInts (d : List Nat) (k : Nat) :
    (natsToInts d).any (fun b => decide (b > (no_index (OfNat.ofNat k)))) = d.any (· > k) := by
  simp only [natsToInts, List.any_map]
  congr 1; funext x
  simp only [Function.comp, Int.ofNat_eq_natCast, gt_iff_lt, lit_lt_natCast]

theorem fromBytes_model (cs : Charset) (δ : Nat) (status : Nat) (d : List Nat) :
    (modelExt cs).fromBytes ([(status : Int)] ++ natsToInts d) (δ : Int) =
      match decodeNats (status :: d) with
      | .ok m => .ok ⟨.msg m, δ⟩
      | .error e => .error e := by
  have : intsToNats ([(status : Int)] ++ natsToInts d) = status :: d := intsToNats_natsToInts (status :: d)
  simp only [modelExt, this, Int.toNat_natCast]

theorem src_read_message_at (cs : Charset) (T : Int) (bs : List Nat) (status : Nat) (peek : List Nat) (δ : Nat)
    (clip : Bool) :
    Src.read_message (modelExt cs) (fileAt T bs) (status : Int) (natsToInts peek) (δ : Int) clip =
      atFile T (⟨·, δ⟩) (readChannelish clip status peek bs) := by
  rw [readChannelish_eq clip status peek bs ((specLen status).getD 0) (by cases specLen status <;> rfl)]
  unfold Src.read_message atFile
  have hget := spec_len_get status
  cases hd : definedStatus status <;> simp only [hd, Bool.false_eq_true, if_true, if_false] at hget
  · simp [hget, mapErr, bind, Except.bind]
  · obtain ⟨row, hg, hlen⟩ := hget
    have hL3 := specLen_le status
    -- `L`: the length in the row of `status`; below `n`: the data bytes still to be read
    generalize (specLen status).getD 0 = L at hlen hL3
    have hsize : ((L : Int) - 1 - len (natsToInts peek)).toNat = L - 1 - peek.length := by
      simp only [len, natsToInts, List.length_map]; omega
    have hsmall : ¬ (L - 1 - peek.length > maxMessageLength) := by
      simp only [maxMessageLength]; omega
    simp only [hg, mapErr, ok_bind, hlen, src_read_bytes_at, atFile_bind, hsize, readBytes, hsmall,
      if_false, Bool.not_true, Bool.false_eq_true, ite_bind, ← natsToInts_append]
    generalize L - 1 - peek.length = n
    refine ite_congr rfl (fun _ => rfl) fun _ => ?_
    cases clip
    · rw [forIn_guard (fun b : Int => decide (b > 127)) .OSError]
      case hF => intro _ _; rfl
      simp only [any_gt_natsToInts, Bool.false_eq_true, if_false, Bool.not_false, Bool.true_and, fromBytes_model,
        ite_bind]
      refine ite_congr rfl (fun _ => rfl) fun _ => ?_
      cases decodeNats (status :: (peek ++ bs.take n)) <;> rfl
    · simp only [if_true, clip_ints, fromBytes_model, Bool.not_true, Bool.false_and, Bool.false_eq_true, if_false]
      cases decodeNats (status :: (peek ++ bs.take n).map clipByte) <;> rfl

theorem src_read_message (cs : Charset) (bs : List Nat) (p : Int) (status : Nat) (peek : List Nat) (δ : Nat)
    (clip : Bool) :
    Src.read_message (modelExt cs) (mkFile bs p) (status : Int) (natsToInts peek) (δ : Int) clip =
      match readChannelish clip status peek bs with
      | .ok (ev, r) => .ok (⟨ev, δ⟩, mkFile r (p + bs.length - r.length))
      | .error e => .error e := by
  rw [mkFile_eq_fileAt, src_read_message_at]
  rcases readChannelish clip status peek bs with _ | ⟨ev, r⟩ <;> rfl

theorem src_track_body_at (cs : Charset) (clip : Bool) (name : List Int) (size : Nat) (start T : Int)
    (bs : List Nat) (consumed : Nat) (last : Option Nat) (track : List LEvent)
    (hp : T - bs.length - start = consumed) :
    Src.read_track.loop1.body (modelExt cs) clip name (size : Int) start (fileAt T bs) track (optInt last) =
      if consumed = size then .ok (Sum.inl (fileAt T bs, track, optInt last))
      else readEvent cs clip last bs >>= fun p => pure (Sum.inr (fileAt T p.2.1, track ++ [p.1], optInt p.2.2)) := by
  -- each step of the body is rewritten by its tie until both sides are the `do` block of `readEvent_eq`; the case
  -- splits are only where the two sides write a test differently (`Bool` against `Prop`)
  unfold Src.read_track.loop1.body
  simp only [tell_fileAt, hp, natCast_beq, beq_iff_eq]
  refine ite_congr rfl (fun _ => rfl) fun _ => ?_
  rw [readEvent_eq]
  simp only [src_read_variable_int_at, atFile_bind, bind_assoc]
  refine bind_congr fun p => ?_
  obtain ⟨delta, r1⟩ := p
  cases r1 with
  | nil => rfl
  | cons sb r2 =>
    simp only [readByte_fileAt, ok_bind, natCast_lt_lit, natCast_beq_lit, natCast_bne_lit, natCast_eq_lit, elem_pair,
      ite_bind]
    refine ite_congr decide_eq_true_eq (fun _ => ?_) fun _ => ?_
    · cases last with
      | none => rfl
      | some st =>
        simp only [optInt, Option.map_some, optGet, reduceCtorEq, if_false, ok_bind, Int.ofNat_eq_natCast, natCast_eq_lit,
          show ([(sb : Int)] : List Int) = natsToInts [sb] from rfl, src_read_meta_message_at, src_read_sysex_at,
          src_read_message_at, atFile_bind, readKind, ite_bind, bind_assoc, pure_bind, Bool.or_eq_true, beq_iff_eq]
    · simp only [show ([] : List Int) = natsToInts [] from rfl, src_read_meta_message_at, src_read_sysex_at,
        src_read_message_at, atFile_bind, readKind, ite_bind, bind_assoc, pure_bind, Bool.or_eq_true, beq_iff_eq]
      by_cases h1 : sb = 255
      · simp only [h1, bne_self_eq_false, Bool.false_eq_true, if_false, if_true]
      · simp only [h1, bne_iff_ne, ne_eq, not_false_eq_true, if_true, if_false]
        rfl

theorem src_track_body (cs : Charset) (clip : Bool) (name : List Int) (size : Nat) (start : Int)
    (bs : List Nat) (p : Int) (consumed : Nat) (last : Option Nat) (track : List LEvent)
    (hp : p - start = consumed) :
    Src.read_track.loop1.body (modelExt cs) clip name (size : Int) start (mkFile bs p) track (optInt last) =
      if consumed = size then .ok (Sum.inl (mkFile bs p, track, optInt last))
      else match readEvent cs clip last bs with
        | .ok (e, rest, last') =>
          .ok (Sum.inr (mkFile rest (p + bs.length - rest.length), track ++ [e], optInt last'))
        | .error err => .error err := by
  rw [mkFile_eq_fileAt, src_track_body_at cs clip name size start _ bs consumed last track (by omega)]
  rcases readEvent cs clip last bs with _ | ⟨e, rest, last'⟩ <;> rfl

theorem src_track_loop_at (cs : Charset) (clip : Bool) (name : List Int) (size : Nat) (start T : Int) :
    ∀ (fuel : Nat) (bs : List Nat) (consumed : Nat) (last : Option Nat) (track : List LEvent),
      bs.length < fuel → T - bs.length - start = consumed →
      (Src.read_track.loop1 (modelExt cs) clip name (size : Int) start fuel (fileAt T bs) track (optInt last) >>=
          fun st => pure (st.2.1, st.1)) =
        readEvents cs clip size fuel consumed last bs >>= fun p => pure (track ++ p.1, fileAt T p.2)
  | 0, bs, consumed, last, track, hf, _ => by omega
  | f + 1, bs, consumed, last, track, hf, hp => by
    rw [Src.read_track.loop1, readEvents, if_pos rfl, src_track_body_at cs clip name size start T bs consumed last track hp]
    by_cases hdone : consumed = size
    · rw [if_pos hdone, if_pos hdone]
      simp only [ok_bind, List.append_nil]
      rfl
    · rw [if_neg hdone, if_neg hdone]
      cases he : readEvent cs clip last bs with
      | error err => rfl
      | ok pr =>
        have hlen : pr.2.1.length < bs.length := (readEvent_suffix he).2
        have ih := src_track_loop_at cs clip name size start T f pr.2.1 (consumed + (bs.length - pr.2.1.length)) pr.2.2
          (track ++ [pr.1]) (by omega) (by omega)
        simp only [ok_bind, bind_assoc, pure_bind, List.append_assoc, List.singleton_append] at ih ⊢
        exact ih

theorem src_track_loop (cs : Charset) (clip : Bool) (name : List Int) (size : Nat) (start : Int) :
    ∀ (fuel : Nat) (bs : List Nat) (p : Int) (consumed : Nat) (last : Option Nat) (track : List LEvent),
      bs.length < fuel → p - start = consumed →
      match readEvents cs clip size fuel consumed last bs with
      | .ok (es, rest) => ∃ l', Src.read_track.loop1 (modelExt cs) clip name (size : Int) start fuel (mkFile bs p) track
          (optInt last) = .ok (mkFile rest (p + bs.length - rest.length), track ++ es, l')
      | .error err => Src.read_track.loop1 (modelExt cs) clip name (size : Int) start fuel (mkFile bs p) track
          (optInt last) = .error err := by
  intro fuel bs p consumed last track hf hp
  have h := src_track_loop_at cs clip name size start (p + bs.length) fuel bs consumed last track hf (by omega)
  rw [← mkFile_eq_fileAt] at h
  generalize readEvents cs clip size fuel consumed last bs = x at h ⊢
  generalize Src.read_track.loop1 (modelExt cs) clip name (size : Int) start fuel (mkFile bs p) track (optInt last) = y at h ⊢
  rcases x with err | ⟨es, rest⟩ <;> rcases y with err' | ⟨f', tr', l'⟩ <;> cases h
  · rfl
  · exact ⟨l', rfl⟩

theorem readUpTo_mkFile (bs : List Nat) (p : Int) (n : Nat) :
    readUpTo (mkFile bs p) (n : Int) =
      (natsToInts (bs.take n), mkFile (bs.drop n) (p + (min n bs.length : Nat))) := by
  simp only [readUpTo, mkFile, natsToInts, Int.toNat_natCast, List.length_map]
  rw [List.map_take, List.map_drop, List.take_eq_take_min (i := n), List.drop_eq_drop_min (i := n), List.length_map]

theorem beVal_be32 : ∀ (l : List Nat), l.length = 4 → beVal (natsToInts l) = ((be32 l : Nat) : Int)
  | [a, b, c, d], _ => by
    simp only [natsToInts, List.map_cons, List.map_nil, beVal, be32, List.length_cons, List.length_nil,
      Int.ofNat_eq_natCast]
    omega

theorem src_read_chunk_header (bs : List Nat) (p : Int) :
    Src.read_chunk_header (mkFile bs p) =
      if bs.length < 8 then .error .EOFError
      else .ok ((natsToInts (bs.take 4), ((be32 ((bs.drop 4).take 4) : Nat) : Int)), mkFile (bs.drop 8) (p + 8)) := by
  have h : readUpTo (mkFile bs p) 8 = _ := readUpTo_mkFile bs p 8
  unfold Src.read_chunk_header
  simp only [h, len, natsToInts, List.length_map, List.length_take, decide_eq_true_eq]
  refine ite_congr (propext (by omega)) (fun _ => rfl) fun h8 => ?_
  have hm : min 8 bs.length = 8 := by omega
  have hbe := beVal_be32 ((bs.drop 4).take 4) (by rw [List.length_take, List.length_drop]; omega)
  simp only [unpack4sL, List.length_map, List.length_take, hm, if_true, ← List.map_take, ← List.map_drop,
    List.take_take, List.drop_take]
  simp only [natsToInts, List.map_take, List.map_drop] at hbe ⊢
  rw [hbe]
  rfl

theorem src_read_chunk_header_at (T : Int) (bs : List Nat) :
    Src.read_chunk_header (fileAt T bs) =
      if bs.length < 8 then .error .EOFError
      else .ok ((natsToInts (bs.take 4), ((be32 ((bs.drop 4).take 4) : Nat) : Int)), fileAt T (bs.drop 8)) := by
  rw [fileAt, src_read_chunk_header]
  refine ite_congr rfl (fun _ => rfl) fun h8 => ?_
  have : T - (bs.length : Int) + 8 = T - ((bs.length - 8 : Nat) : Int) := by omega
  simp only [fileAt, List.length_drop, this]

theorem name_bne (a b : List Nat) : (natsToInts a != natsToInts b) = decide (a ≠ b) := by
  have : natsToInts a = natsToInts b ↔ a = b :=
    ⟨fun h => by simpa using congrArg intsToNats h, congrArg natsToInts⟩
  rw [Bool.eq_iff_iff]
  simp [this]

theorem src_read_track_at (cs : Charset) (clip : Bool) (T : Int) (bs : List Nat) :
    Src.read_track (modelExt cs) (fileAt T bs) clip = atFile T id (readTrack cs clip bs) := by
  unfold Src.read_track readTrack
  simp only [src_read_chunk_header_at, ite_bind, atFile]
  refine ite_congr rfl (fun _ => rfl) fun h8 => ?_
  simp only [ok_bind, show ([77, 84, 114, 107] : List Int) = natsToInts mtrk from rfl, name_bne, tell_fileAt,
    length_rest_fileAt]
  exact ite_congr decide_eq_true_eq (fun _ => rfl) fun _ =>
    src_track_loop_at cs clip _ _ _ T _ (bs.drop 8) 0 none [] (by omega) (by simp)

/-- `read_track`, as translated from the source (chunk header, `tell()`-based end test, delta time, running
    status, the three kinds of event), reads from EVERY byte list exactly the events of the model's `readTrack`,
    leaves the same bytes unread at the position that corresponds to them, and raises where the model raises -/
theorem src_read_track (cs : Charset) (clip : Bool) (bs : List Nat) (p : Int) :
    Src.read_track (modelExt cs) (mkFile bs p) clip =
      match readTrack cs clip bs with
      | .ok (es, rest) => .ok (es, mkFile rest (p + bs.length - rest.length))
      | .error e => .error e := by
  rw [mkFile_eq_fileAt, src_read_track_at]
  rcases readTrack cs clip bs with _ | ⟨es, rest⟩ <;> rfl

theorem s16_eq (a b : Nat) : Py.s16 (a : Int) (b : Int) = Mido.s16 a b := by
  have hge : ((a : Int) * 256 + (b : Int) ≥ 32768) ↔ a * 256 + b ≥ 32768 := by omega
  simp only [Py.s16, Mido.s16, Int.natCast_add, Int.natCast_mul, Int.cast_ofNat_Int, hge]

theorem src_read_file_header (bs : List Nat) (p : Int) :
    Src.read_file_header (mkFile bs p) =
      if bs.length < 8 then .error .EOFError
      else if bs.take 4 ≠ mthd then .error .OSError
      else
        let size := be32 ((bs.drop 4).take 4)
        match (bs.drop 8).take size with
        | a :: b :: c :: d :: e :: f :: _ =>
          .ok ((Mido.s16 a b, Mido.s16 c d, Mido.s16 e f),
               mkFile ((bs.drop 8).drop size) (p + 8 + (min size (bs.drop 8).length : Nat)))
        | _ => .error .EOFError := by
  unfold Src.read_file_header
  simp only [src_read_chunk_header, ite_bind, ok_bind, show ([77, 84, 104, 100] : List Int) = natsToInts mthd from rfl,
    name_bne, decide_eq_true_eq, readUpTo_mkFile, len]
  refine ite_congr rfl (fun _ => rfl) fun _ => ite_congr rfl (fun _ => rfl) fun _ => ?_
  generalize be32 ((bs.drop 4).take 4) = size
  generalize bs.drop 8 = body
  rw [natsToInts, List.length_map]
  match body.take size with
  | a :: b :: c :: d :: e :: f :: tail =>
    have h6 : ¬ (((a :: b :: c :: d :: e :: f :: tail).length : Int) < 6) := by
      simp only [List.length_cons]; omega
    simp only [h6, if_false, List.map_cons, List.take, unpackHHH, Int.ofNat_eq_natCast, s16_eq, ok_bind]
    rfl
  | [] | [_] | [_, _] | [_, _, _] | [_, _, _, _] | [_, _, _, _, _] => rfl

/-- the loop over the tracks of `_load` (the loop variable is not used) -/
theorem src_load_loop (cs : Charset) (clip : Bool)
    (F : Int → PyFile × List (List LEvent) → Except Err (ForInStep (PyFile × List (List LEvent))))
    (hF : ∀ i s, F i s = (match Src.read_track (modelExt cs) s.1 clip with
      | .error err => .error err
      | .ok v => .ok (.yield (v.2, s.2 ++ [v.1])))) :
    ∀ (is : List Int) (bs : List Nat) (p : Int) (acc : List (List LEvent)),
      match readTracks cs clip is.length bs with
      | .ok ts => ∃ f', forIn is (mkFile bs p, acc) F = .ok (f', acc ++ ts)
      | .error e => forIn is (mkFile bs p, acc) F = .error e
  | [], bs, p, acc => by simp [readTracks, pure, Except.pure]
  | i :: is, bs, p, acc => by
    rw [List.forIn_cons, hF]
    simp only [List.length_cons, readTracks, src_read_track, bind, Except.bind]
    cases ht : readTrack cs clip bs with
    | error e => rfl
    | ok pr =>
      obtain ⟨t, rest⟩ := pr
      simp only []
      have ih := src_load_loop cs clip F hF is rest (p + bs.length - rest.length) (acc ++ [t])
      cases hr : readTracks cs clip is.length rest <;> simp only [hr] at ih
      · exact ih
      · obtain ⟨f', hf⟩ := ih
        exact ⟨f', by simp only [hf, List.append_assoc, List.singleton_append]⟩

/-- `MidiFile._load`, as translated from the source, reads from EVERY byte string what the model's `readFile`
    reads: type, ticks per beat and all tracks, appended to the tracks the object held -/
theorem src_load (cs : Charset) (clip : Bool) (bs : List Nat) (ty0 tpb0 : Int) (tracks0 : List (List LEvent)) :
    (Src.MidiFile._load (modelExt cs) ty0 tpb0 tracks0 clip (mkFile bs 0)).map
        (fun r => (r.1, r.2.1, r.2.2.1, r.2.2.2.1)) =
      match readFile cs clip bs with
      | .ok f => .ok (f.type, f.tpb, tracks0 ++ f.tracks, clip)
      | .error e => .error e := by
  unfold Src.MidiFile._load readFile
  simp only [src_read_file_header, ite_bind]
  split
  · rfl
  split
  · rfl
  generalize List.take (be32 (List.take 4 (List.drop 4 bs))) (List.drop 8 bs) = data
  generalize List.drop (be32 (List.take 4 (List.drop 4 bs))) (List.drop 8 bs) = rest
  generalize (0 : Int) + 8 + ((min (be32 (List.take 4 (List.drop 4 bs))) (List.drop 8 bs).length : Nat) : Int) = q
  match data with
  | a :: b :: c :: d :: e :: f :: tail =>
    have hloop := fun F hF => src_load_loop cs clip F hF (rangeInt (Mido.s16 c d)) rest q tracks0
    have hlenr : (rangeInt (Mido.s16 c d)).length = (Mido.s16 c d).toNat := by simp [rangeInt]
    rw [hlenr] at hloop
    simp only [ok_bind]
    cases hr : readTracks cs clip (Mido.s16 c d).toNat rest with
    | error err =>
      simp only [hr] at hloop
      rw [hloop]
      case hF => intro i s; cases Src.read_track (modelExt cs) s.1 clip <;> rfl
      rfl
    | ok ts =>
      simp only [hr] at hloop
      -- the loop body `F` is left open here: rewriting with `hf` finds it in the goal
      apply Exists.elim (hloop _ ?_)
      · intro f' hf
        rw [hf]
        rfl
      · intro i s; cases Src.read_track (modelExt cs) s.1 clip <;> rfl
  | [] | [_] | [_, _] | [_, _, _] | [_, _, _, _] | [_, _, _, _, _] => rfl

end Mido
