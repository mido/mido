import MidoModel.Generated.SrcCharset
import MidoModel.CharsetScope
import MidoProofs.Lemmas.PMRun
namespace Mido
open Mido.Py

/-- the translated context manager, computed: the block runs with the temporary charset in force, and whatever it does —
    return, raise, rebind the global itself — the charset in force afterwards is the one from before -/
theorem src_meta_charset {α : Type} (c : String) (body : PM Src.MetaGlobals α) (g : Src.MetaGlobals) :
    Src.meta_charset c body g = ((body { g with _charset := c }).1, { (body { g with _charset := c }).2 with _charset := g._charset }) := by
  simp only [Src.meta_charset, PM.run_bind, PM.run_get, PM.run_modify, PM.run_tryFinally]

/-- **Scoped**, for every block (raising or not, itself rebinding the global or not) and every nesting -/
theorem src_meta_charset_scoped {α : Type} (c : String) (body : PM Src.MetaGlobals α) (g : Src.MetaGlobals) :
    (Src.meta_charset c body g).2._charset = g._charset := by
  rw [src_meta_charset]

/-- a block that encodes or decodes with the charset in force (and does not rebind it) -/
def readCs {α : Type} (f : String → Except Err α) : PM Src.MetaGlobals α := fun s => (f s._charset, s)

/-- the block sees the temporary charset, the caller's state is untouched -/
theorem src_meta_charset_inner {α : Type} (c : String) (f : String → Except Err α) (g : Src.MetaGlobals) :
    Src.meta_charset c (readCs f) g = (f c, g) := by
  rw [src_meta_charset]; rfl

/-- nested scopes: inside the inner one its charset is in force, after it the outer one again, after both the original -/
theorem src_meta_charset_nested {α : Type} (c1 c2 : String) (f : String → Except Err α) (g : Src.MetaGlobals) :
    Src.meta_charset c1 (do
        let a ← Src.meta_charset c2 (readCs f)
        let b ← readCs f
        pure (a, b)) g
      = ((do let a ← f c2; let b ← f c1; pure (a, b)), g) := by
  rw [src_meta_charset]
  simp only [PM.run_bind, src_meta_charset_inner, PM.run_pure, readCs]
  cases f c2 <;> cases h1 : f c1 <;> simp only [h1] <;> rfl

/-- the charset names the library and the model use -/
def csName : Charset → String | .latin1 => "latin1" | .ascii => "ascii" | .utf8 => "utf-8"
def csOfName (s : String) : Charset := if s = "ascii" then .ascii else if s = "utf-8" then .utf8 else .latin1
theorem csOfName_csName (c : Charset) : csOfName (csName c) = c := by cases c <;> rfl

/-- the model's `withCharset` is the translated context manager around a block that reads the charset -/
theorem src_withCharset {α : Type} (g : GState) (c : Charset) (body : GState → Except Err α) :
    (⟨csOfName (Src.meta_charset (csName c) (readCs fun s => body ⟨csOfName s⟩) ⟨csName g.charset⟩).2._charset⟩,
      (Src.meta_charset (csName c) (readCs fun s => body ⟨csOfName s⟩) ⟨csName g.charset⟩).1) = withCharset g c body := by
  simp only [src_meta_charset_inner, withCharset, csOfName_csName]

example : Src.meta_charset "utf-8" (readCs fun s => if s = "utf-8" then .error .UnicodeError else .ok s) ⟨"latin1"⟩ =
    (.error .UnicodeError, ⟨"latin1"⟩) := by decide +kernel

end Mido
