/-
  Source tie for the framing of meta messages in mido/midifiles/meta.py: `MetaMessage.from_bytes`, `MetaMessage.bytes`,
  `UnknownMetaMessage.bytes`.
-/
import MidoModel.Generated.SrcMetaNum
import MidoProofs.SrcTie.Vlq
import MidoProofs.Lemmas.Except
import MidoModel.Meta
namespace Mido
open Mido.Py

/-- number of leading continuation bytes -/
def hiCount : List Nat → Nat
  | [] => 0
  | b :: r => if 128 ≤ b then hiCount r + 1 else 0

/-- not beyond a byte: `256 &&& 128 = 0` -/
theorem and_128_eq_zero_iff : ∀ b < 256, ((b &&& 128 : Nat) = 0 ↔ b < 128) := by decide +kernel

theorem idx_map_append_length (pre : List Nat) (b : Nat) (r : List Nat) :
    idx (List.map Int.ofNat (pre ++ b :: r)) (pre.length : Int) = .ok (b : Int) := by
  simpa using idx_append_length (pre.map Int.ofNat) (b : Int) (r.map Int.ofNat)

theorem src_scan_loop {M : Type} [Inhabited M] (ext : ReaderExt M) :
    ∀ (tail pre : List Nat) (fuel : Nat), tail.length < fuel → (∀ b ∈ tail, b < 256) →
      Src.MetaMessage.from_bytes.loop1 ext (natsToInts (pre ++ tail)) fuel (pre.length : Int)
        = .ok ((pre.length + hiCount tail : Nat) : Int)
  | _, _, 0, hf, _ => nomatch hf
  | [], pre, f + 1, _, _ => by
    simp [Src.MetaMessage.from_bytes.loop1, len, natsToInts, hiCount, bind, Except.bind, pure, Except.pure]
  | b :: r, pre, f + 1, hf, hb => by
    have hlt : (pre.length : Int) < ((pre ++ b :: r).length : Int) := by simp; omega
    have ht := and_128_eq_zero_iff b (hb b (by simp))
    unfold Src.MetaMessage.from_bytes.loop1
    simp only [len, natsToInts, List.length_map] at *
    simp only [hlt, decide_true, if_true, idx_map_append_length, ok_bind, pure_bind, land_lit_right, natCast_bne_lit,
      bne_iff_ne, ne_eq, ht, Nat.not_lt, hiCount]
    split
    · have ih := src_scan_loop ext r (pre ++ [b]) f (by simp at hf; omega) (fun x hx => hb x (by simp [hx]))
      simp only [List.length_append, List.length_singleton, List.append_assoc, List.singleton_append, natsToInts] at ih
      rw [← Int.natCast_add_one, ih, Nat.add_assoc, Nat.add_comm 1]
    · rfl

/-- `decode_variable_int` never raises on a list of (non-negative) ints -/
theorem decode_variable_int_total (xs : List Nat) : ∃ v, Src.decode_variable_int (natsToInts xs) = .ok v :=
  ⟨_, src_decode_variable_int_eq xs⟩

theorem readVlqAcc_allhi (tail : List Nat) (acc : Nat) (h : tail.length ≤ hiCount tail) :
    readVlqAcc acc tail = .error .EOFError := by
  fun_induction hiCount tail generalizing acc with
  | case1 => rfl
  | case2 b r hb ih =>
    simp only [readVlqAcc, Nat.not_lt.mpr hb, if_false]
    exact ih _ (by simpa using h)
  | case3 b r hb => simp at h

theorem hiCount_split (tail : List Nat) (h : hiCount tail < tail.length) :
    ∃ hi last rest, tail = hi ++ [last] ++ rest ∧ hi.length = hiCount tail ∧ (∀ b ∈ hi, 128 ≤ b) ∧ last < 128 := by
  fun_induction hiCount tail with
  | case1 => simp at h
  | case2 b r hb ih =>
    obtain ⟨hi, last, rest, e, hl, hh, hlast⟩ := ih (by simpa using h)
    exact ⟨b :: hi, last, rest, by simp [e], by simp [hl], List.forall_mem_cons.mpr ⟨hb, hh⟩, hlast⟩
  | case3 b r hb => exact ⟨[], b, r, by simp, by simp, by simp, by omega⟩

open List in
theorem slices_after_type (x y : Nat) (tail : List Nat) (k : Nat) :
    sliceBetween (natsToInts (x :: y :: tail)) 2 ((k + 3 : Nat) : Int) = natsToInts (tail.take (k + 1)) ∧
    sliceFromI (natsToInts (x :: y :: tail)) ((k + 3 : Nat) : Int) = natsToInts (tail.drop (k + 1)) := by
  have e : min (k + 3) (tail.length + 1 + 1) = min (k + 1) tail.length + 2 := by omega
  have hl : (map Int.ofNat tail).length = tail.length := length_map ..
  simp only [sliceBetween, sliceFromI, sliceNorm, natsToInts, length_map, length_cons, map_cons,
    Int.reduceLT, show ¬ (((k + 3 : Nat) : Int) < 0) by omega, if_false, Int.toNat_natCast,
    Int.reduceToNat, e, show min 2 (tail.length + 1 + 1) = 2 by omega,
    take_succ_cons, drop_succ_cons, drop_zero, map_take, map_drop]
  exact ⟨by rw [← hl, ← take_eq_take_min], by rw [← hl, ← drop_eq_drop_min]⟩

open List in
/-- on a length field ending inside `tail`, `decode_variable_int` gives `readVlq`'s value; what follows is its rest -/
theorem src_length_field (tail : List Nat) (htl : ∀ b ∈ tail, b < 256) (h : hiCount tail < tail.length) :
    ∃ v : Nat, Src.decode_variable_int (natsToInts (tail.take (hiCount tail + 1))) = .ok (v : Int) ∧
      readVlq tail = .ok (v, tail.drop (hiCount tail + 1)) := by
  obtain ⟨hi, last, rest, rfl, hl, hh, hlast⟩ := hiCount_split tail h
  obtain ⟨v, hv1, hv2⟩ := src_decode_variable_int hi last (fun b h => ⟨hh b h, htl b (by simp [h])⟩) hlast
  have h0 := readVlqAcc_shape hi last 0 [] hh hlast
  rw [append_nil, ← readVlq, hv1, Except.ok.injEq, Prod.mk.injEq] at h0
  refine ⟨v, ?_, ?_⟩
  · rw [← hl, take_left' (by simp), hv2]
  · rw [← hl, drop_left' (by simp), readVlq, readVlqAcc_shape hi last 0 rest hh hlast, ← h0.1]

/-- `MetaMessage.from_bytes` of the source: the scan for the end of the length field, the length check and the call of
    `build_meta_message`, on every byte list -/
theorem src_meta_from_bytes {M : Type} [Inhabited M] (ext : ReaderExt M) (bs : List Nat) (hb : ∀ b ∈ bs, b < 256) :
    Src.MetaMessage.from_bytes ext (natsToInts bs) =
      match bs with
      | [] => .error .IndexError
      | first :: rest =>
        if first ≠ 0xff then .error .ValueError else
        match rest with
        | [] => .error .ValueError
        | ty :: tail =>
          match readVlq tail with
          | .error _ => .error .ValueError
          | .ok (n, data) => if n = data.length then ext.buildMeta ty (natsToInts data) 0 else .error .ValueError := by
  match bs, hb with
  | [], _ => simp [Src.MetaMessage.from_bytes, natsToInts, bind, Except.bind]
  | first :: rest, hb =>
    by_cases hf : first = 255
    · subst hf
      match rest, hb with
      | [], _ => rfl
      | ty :: tail, hb =>
        -- the scan stops at `hiCount tail + 2` (`hloop`): `s1` is the length field, `s2` the payload
        have htl : ∀ b ∈ tail, b < 256 := fun b h => hb b (by simp [h])
        have hloop : Src.MetaMessage.from_bytes.loop1 ext (natsToInts (255 :: ty :: tail)) (tail.length + 1 + 2) 2
            = .ok ((hiCount tail + 2 : Nat) : Int) := by
          simpa [Nat.add_comm] using src_scan_loop ext tail [255, ty] (tail.length + 1 + 2) (by omega) htl
        obtain ⟨s1, s2⟩ := slices_after_type 255 ty tail (hiCount tail)
        have hi0 : idx (natsToInts (255 :: ty :: tail)) 0 = .ok 255 := idx_zero ..
        have hi1 : idx (natsToInts (255 :: ty :: tail)) 1 = .ok (ty : Int) := idx_one ..
        have hlen : (natsToInts (255 :: ty :: tail)).length + 1 = tail.length + 1 + 2 := by simp [natsToInts]
        have e3 : ((hiCount tail + 2 : Nat) : Int) + 1 = ((hiCount tail + 3 : Nat) : Int) := by omega
        unfold Src.MetaMessage.from_bytes
        simp only [hi0, hi1, hlen, hloop, ok_bind, bne_self_eq_false, Bool.false_eq_true, if_false, e3, s1, s2]
        by_cases hall : tail.length ≤ hiCount tail
        · -- no terminating byte: the scan runs off the end
          obtain ⟨v, hv⟩ := decode_variable_int_total tail
          rw [List.take_of_length_le (Nat.le_succ_of_le hall), hv, readVlq, readVlqAcc_allhi tail 0 hall, ok_bind,
            if_pos (by simp [len, natsToInts]; omega)]
          rfl
        · obtain ⟨v, hv, hr⟩ := src_length_field tail htl (Nat.lt_of_not_le hall)
          rw [hv, hr]
          have hgt : ¬ (((hiCount tail + 3 : Nat) : Int) > ((255 :: ty :: tail).length : Int)) := by
            simp only [List.length_cons]; omega
          simp only [ok_bind, hgt, len, natsToInts, List.length_map, decide_false, Bool.false_or, bne_iff_ne, ne_eq,
            Int.natCast_inj, ite_not, not_true, if_false, bind_pure]
          rfl
    · simp [Src.MetaMessage.from_bytes, natsToInts, bind, Except.bind, hf, natCast_eq_lit, throw, throwThe,
        MonadExceptOf.throw]

theorem src_unknown_meta_bytes (tb : Int) (data : List Nat) :
    Src.UnknownMetaMessage.bytes tb (natsToInts data) =
      .ok ([255, tb] ++ natsToInts (encVlq data.length) ++ natsToInts data) := by
  simp only [Src.UnknownMetaMessage.bytes, len, natsToInts, List.length_map, src_encode_variable_int, ok_bind]
  rfl

/-- `MetaMessage.bytes()`: status 0xFF, the type byte, the payload length as a variable-length quantity, the payload
    (what `spec.encode(self)` returns, or raises, is a parameter) -/
theorem src_meta_bytes (tb : Int) (payload : List Nat) :
    Src.MetaMessage.bytes tb (.ok (natsToInts payload)) =
      .ok ([255, tb] ++ natsToInts (encVlq payload.length) ++ natsToInts payload) :=
  src_unknown_meta_bytes tb payload

theorem src_meta_bytes_err (tb : Int) (e : Err) : Src.MetaMessage.bytes tb (.error e) = .error e := rfl

/-- `build_meta_message` as the model renders it (the record written out in `src_meta_from_bytes_model`) -/
def metaExt (cs : Charset) : ReaderExt MetaEvent :=
  { buildMeta := fun ty data _ => buildMeta cs ty.toNat (data.map Int.toNat),
    mkSysex := fun _ _ => .error .Other, fromBytes := fun _ _ => .error .Other }

/-- with `build_meta_message` instantiated by the model's `buildMeta`, the source's `from_bytes` is the model's
    `metaFromBytes` -/
theorem src_meta_from_bytes_model (cs : Charset) (bs : List Nat) (hb : ∀ b ∈ bs, b < 256) :
    Src.MetaMessage.from_bytes
        ({ buildMeta := fun ty data _ => buildMeta cs ty.toNat (data.map Int.toNat),
           mkSysex := fun _ _ => .error .Other, fromBytes := fun _ _ => .error .Other } : ReaderExt MetaEvent)
        (natsToInts bs) = metaFromBytes cs bs := by
  rw [src_meta_from_bytes _ bs hb]
  simp only [Int.toNat_natCast,
    show ∀ data : List Nat, (natsToInts data).map Int.toNat = data from intsToNats_natsToInts]
  cases bs with
  | nil => rfl
  | cons first rest => cases rest <;> rfl

example : Src.MetaMessage.bytes 0x51 (.ok [7, 161, 32]) = .ok [255, 0x51, 3, 7, 161, 32] := by decide +kernel
example : (metaFromBytes .latin1 [255, 0x51, 3, 7, 161, 32]).toOption.isSome = true := by decide +kernel

end Mido
