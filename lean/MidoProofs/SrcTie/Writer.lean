import MidoModel.Smf
import MidoModel.Generated.SrcFileIO
import MidoProofs.Lemmas.SmfRt
import MidoProofs.Lemmas.Codec
import MidoProofs.SrcTie.Loops
import MidoProofs.SrcTie.Vlq
import MidoProofs.SrcTie.Tracks
/-!
  Source tie, MIDI file writer: `write_track`, `MidiFile._save` / `save` of `mido/midifiles/midifiles.py`
  (Generated/SrcFileIO.lean) write the bytes of the model's `writeTrack` / `writeFile` and fail where they fail.
-/
namespace Mido
open Mido.Py

theorem packU32_eq (n : Nat) (h : n < 4294967296) : packU32 (n : Int) = .ok (natsToInts (u32be n)) := by
  have h1 : (0 : Int) ≤ n ∧ (n : Int) / 4294967296 = 0 := by omega
  simp only [packU32, h1, and_self, if_true, u32be, natsToInts, List.map_cons, List.map_nil]
  congr 1

theorem src_write_chunk (out name : List Int) (data : List Nat) (h : data.length < 4294967296) :
    Src.write_chunk out name (natsToInts data)
      = .ok ((), out ++ name ++ natsToInts (u32be data.length) ++ natsToInts data) := by
  simp only [Src.write_chunk, len, natsToInts, List.length_map, packU32_eq data.length h, bind, Except.bind, pure,
    Except.pure]

/-- `msg.bytes()` of a file event under the file's charset -/
def eventBytes (cs : Charset) : FEv → Except Err (List Nat)
  | .msg m => .ok (encode m)
  | .metaEv m => metaBytes cs m
  | .unknownMeta tb data =>
    if data.all (· < 256) && tb < 256 then .ok ([0xff, tb] ++ encVlq data.length ++ data) else .error .ValueError

def isSysexEv : FEv → Bool | .msg (.sysex _) => true | _ => false
def sysexData : FEv → List Nat | .msg (.sysex d) => d | _ => []

/-- a track event of the model as the translator's message record: what `write_track` reads of a message -/
def TEvent.toW (cs : Charset) (e : TEvent) : TMsg :=
  { id := 0, eot := e.ev.isEot,
    time := match e.time with | .int n => n | _ => 0,
    timeIsInt := match e.time with | .int _ => true | _ => false,
    isRealtime := e.ev.isRealtime, isMeta := e.ev.isMeta, isSysex := isSysexEv e.ev,
    bytes := (eventBytes cs e.ev).map natsToInts, data := natsToInts (sysexData e.ev) }

theorem src_wt_check (cs : Charset) (F : TMsg → PUnit → Except Err (ForInStep PUnit))
    (hF : ∀ msg s, F msg s =
      if (!msg.timeIsInt) = true then .error .ValueError
      else if decide (msg.time < 0) = true then .error .ValueError else .ok (.yield PUnit.unit)) :
    ∀ tr : List TEvent,
      forIn (tr.map (TEvent.toW cs)) PUnit.unit F = if tr.all timeOk = true then .ok PUnit.unit else .error .ValueError := by
  intro tr
  have hp : ∀ e : TEvent,
      (!(TEvent.toW cs e).timeIsInt || decide ((TEvent.toW cs e).time < 0)) = !timeOk e := by
    intro e
    cases ht : e.time <;> simp [TEvent.toW, ht, timeOk, ← Int.not_lt]
  rw [forIn_guard (fun msg => !msg.timeIsInt || decide (msg.time < 0)) .ValueError F
    (fun msg s => by rw [hF]; cases msg.timeIsInt <;> simp), List.any_map, List.all_eq_not_any_not]
  simp only [Function.comp_def, hp]
  cases tr.any (fun e => !timeOk e) <;> rfl

/-- one round of the second loop of `write_track`, written out (the shape the translated body reduces to) -/
def wtStep (msg : TMsg) (s : List Int × Option Int) : Except Err (ForInStep (List Int × Option Int)) :=
  if msg.isRealtime = true then .error .ValueError else
  match Src.encode_variable_int msg.time with
  | .error err => .error err
  | .ok v =>
    if msg.isMeta = true then
      match msg.bytes with
      | .error err => .error err
      | .ok b => .ok (.yield (s.1 ++ v ++ b, none))
    else if msg.isSysex = true then
      match Src.encode_variable_int (len msg.data + 1) with
      | .error err => .error err
      | .ok v1 => .ok (.yield (s.1 ++ v ++ [240] ++ v1 ++ msg.data ++ [247], none))
    else
      match msg.bytes with
      | .error err => .error err
      | .ok b =>
        match idx b 0 with
        | .error err => .error err
        | .ok st =>
          if (some st == s.2) = true then
            if decide (st < 240) = true then .ok (.yield (s.1 ++ v ++ sliceFrom b 1, some st))
            else .ok (.yield (s.1 ++ v ++ sliceFrom b 1, none))
          else
            if decide (st < 240) = true then .ok (.yield (s.1 ++ v ++ b, some st))
            else .ok (.yield (s.1 ++ v ++ b, none))

theorem optInt_beq (s : Nat) (r : Option Nat) : (some (s : Int) == optInt r) = decide (some s = r) :=
  (optMap_natCast_beq (some s) r).trans (Bool.beq_eq_decide_eq _ _)

theorem wtStep_toW (cs : Charset) (e : TEvent) (n : Nat) (hn : e.time = .int n) (data : List Int)
    (running : Option Nat) :
    wtStep (TEvent.toW cs e) (data, optInt running) =
      if e.ev.isRealtime = true then .error .ValueError else
      match writeEvent cs running e.ev with
      | .ok (b, r') => .ok (.yield (data ++ natsToInts (encVlq n) ++ natsToInts b, optInt r'))
      | .error err => .error err := by
  obtain ⟨ev, t⟩ := e
  subst hn
  simp only [wtStep, TEvent.toW, src_encode_variable_int]
  refine ite_congr rfl (fun _ => rfl) fun _ => ?_
  -- the cases of `writeEvent`: meta, unknown meta (in range or not), sysex, any other message
  fun_cases writeEvent cs running ev with
  | case1 m =>
    cases hb : metaBytes cs m <;>
      simp [FEv.isMeta, eventBytes, hb, Except.map, bind, Except.bind, pure, Except.pure, optInt]
  | case2 tb d hc | case3 tb d hc => simp [FEv.isMeta, eventBytes, hc, Except.map, optInt]
  | case4 d =>
    have hv1 : Src.encode_variable_int ((d.length : Int) + 1) = .ok (natsToInts (encVlq (d.length + 1))) :=
      src_encode_variable_int (d.length + 1)
    simp [FEv.isMeta, isSysexEv, sysexData, len, hv1, optInt, natsToInts]
  | case5 m hsx =>
    have hns : isSysexEv (.msg m) = false := by
      cases m with
      | sysex => exact (hsx _ rfl).elim
      | _ => rfl
    obtain ⟨ds, henc⟩ := encode_status m
    generalize m.status = s0 at henc
    have hidx : idx (natsToInts (s0 :: ds)) 0 = .ok (s0 : Int) := idx_zero ..
    simp +zetaDelta only [hns, FEv.isMeta, eventBytes, Except.map, henc, hidx, optInt_beq, natCast_lt_lit,
      Bool.false_eq_true, if_false, List.headD_cons, List.tail_cons]
    by_cases h1 : some s0 = running
    · subst h1
      by_cases h2 : s0 < 0xf0 <;> simp [h2, optInt, sliceFrom, natsToInts]
    · by_cases h2 : s0 < 0xf0 <;> simp [h1, h2, optInt, natsToInts]

/-- the second loop over events whose times are natural numbers: the bytes of the model's `writeEvents`, or its
    exception -/
theorem src_wt_loop (cs : Charset) (F : TMsg → List Int × Option Int → Except Err (ForInStep (List Int × Option Int)))
    (hF : ∀ msg s, F msg s = wtStep msg s) :
    ∀ (es : List TEvent) (data : List Int) (running : Option Nat),
      (∀ e ∈ es, ∃ n : Nat, e.time = .int n) →
      match writeEvents cs running es with
      | .ok body => ∃ r', forIn (es.map (TEvent.toW cs)) (data, optInt running) F = .ok (data ++ natsToInts body, r')
      | .error err => forIn (es.map (TEvent.toW cs)) (data, optInt running) F = .error err
  | [], data, running, _ => by
    simp [writeEvents, natsToInts, pure, Except.pure]
  | e :: es, data, running, hall => by
    obtain ⟨n, hn⟩ := hall e (by simp)
    have hneg : ¬ ((n : Int) < 0) := by omega
    rw [List.map_cons, List.forIn_cons, hF, wtStep_toW cs e n hn]
    simp only [writeEvents, hn, hneg, if_false, Int.toNat_natCast]
    by_cases hrt : e.ev.isRealtime = true
    · simp [hrt, bind, Except.bind]
    · simp only [hrt, bind, Except.bind]
      cases writeEvent cs running e.ev with
      | error err => rfl
      | ok pr =>
        have ih := src_wt_loop cs F hF es (data ++ natsToInts (encVlq n) ++ natsToInts pr.1) pr.2
          (fun x hx => hall x (by simp [hx]))
        cases hw : writeEvents cs pr.2 es <;>
          simpa [hw, pure, Except.pure, natsToInts_append, List.append_assoc] using ih

theorem toW_eot (cs : Charset) (acc : Nat) : TEvent.toW cs (eotEvent (.int acc)) = eotT acc := by
  simp [TEvent.toW, eotEvent, eotT, FEv.isEot, FEv.isRealtime, FEv.isMeta, isSysexEv, sysexData, eventBytes,
    metaBytes, metaPayload, MetaType.typeByte, encVlq, encVlqAux, natsToInts, Except.map, bind, Except.bind,
    pure, Except.pure]

theorem timeOk_nat (e : TEvent) (h : timeOk e = true) : ∃ k : Nat, e.time = .int k := by
  unfold timeOk at h
  split at h
  · next n hn => exact ⟨n.toNat, by rw [hn, Int.toNat_of_nonneg (by simpa using h)]⟩
  · cases h

theorem fixEot_toW (cs : Charset) : ∀ (tr : List TEvent) (acc : Nat), tr.all timeOk = true →
    ∃ fixed, fixEotEvents (.int acc) tr = .ok fixed ∧
      fixed.map (TEvent.toW cs) =
        (fixTAcc acc (tr.map (TEvent.toW cs))).1 ++ [eotT (fixTAcc acc (tr.map (TEvent.toW cs))).2] ∧
      ∀ e ∈ fixed, ∃ n : Nat, e.time = .int n
  | [], acc, _ => ⟨[eotEvent (.int acc)], by simp [fixEotEvents], by simp [fixTAcc, toW_eot],
      by intro e he; simp at he; subst he; exact ⟨acc, rfl⟩⟩
  | e :: tr, acc, h => by
    simp only [List.all_cons, Bool.and_eq_true] at h
    obtain ⟨k, hk⟩ := timeOk_nat e h.1
    have ht : (TEvent.toW cs e).time = k := by simp [TEvent.toW, hk]
    have he : (TEvent.toW cs e).eot = e.ev.isEot := rfl
    rw [List.map_cons, fixTAcc_cons, fixEot_int_cons acc k e tr hk, ht, he]
    by_cases hEot : e.ev.isEot = true
    · simp only [hEot, if_true]
      exact fixEot_toW cs tr (acc + k) h.2
    · obtain ⟨fixed, h1, h2, h3⟩ := fixEot_toW cs tr 0 h.2
      rw [Int.natCast_zero] at h1 h2
      refine ⟨⟨e.ev, .int (acc + k : Nat)⟩ :: fixed, by simp [hEot, h1, bind, Except.bind, pure, Except.pure], ?_,
        List.forall_mem_cons.mpr ⟨⟨acc + k, rfl⟩, h3⟩⟩
      simp only [hEot, Bool.false_eq_true, if_false, List.map_cons, h2, List.cons_append]
      simp [TEvent.toW, hk, hEot]

/-- `write_track`, as translated from the source, writes for EVERY track (any events, any Python values as times)
    exactly the chunk of the model's `writeTrack` behind what the output file already holds, and raises where the
    model raises, with the same class.  The only hypothesis is that a chunk body fits the 32-bit length field
    (`struct.pack('>L', …)` raises otherwise; the model's `u32be` does not). -/
theorem src_write_track (cs : Charset) (out : List Int) (tr : List TEvent)
    (hsize : ∀ fixed body, fixEotEvents (.int 0) tr = .ok fixed → writeEvents cs none fixed = .ok body →
      body.length < 4294967296) :
    Src.write_track out (tr.map (TEvent.toW cs)) =
      match writeTrack cs tr with
      | .ok b => .ok ((), out ++ natsToInts b)
      | .error e => .error e := by
  unfold Src.write_track
  simp only [bind, Except.bind, pure, Except.pure]
  have hcheck := fun F hF => src_wt_check cs F hF tr
  rw [hcheck]
  case hF => intro msg s; rfl
  by_cases hok : tr.all timeOk = true
  · obtain ⟨fixed, hfix, hmap, hnat⟩ := fixEot_toW cs tr 0 hok
    rw [Int.natCast_zero] at hfix hmap
    simp only [hok, if_true, src_fix_gen, ← hmap]
    -- the translated body is `wtStep`; it cannot be spelled (the early `raise` doubles the rest of the `do` block)
    have hbody : ∀ F, (hF : ∀ msg s, F msg s = wtStep msg s) →
        forIn (fixed.map (TEvent.toW cs)) ([], none) F = forIn (fixed.map (TEvent.toW cs)) ([], none) wtStep :=
      fun F h => by rw [show F = wtStep from funext fun msg => funext (h msg)]
    rw [hbody]
    case hF =>
      intro msg s
      unfold wtStep
      -- the sides differ only in auxiliary `match` functions: decide each discriminant so that both reduce
      refine ite_congr rfl (fun _ => rfl) fun _ => ?_
      cases Src.encode_variable_int msg.time with
      | error e => rfl
      | ok v =>
        refine ite_congr rfl (fun _ => ?_) fun _ => ite_congr rfl (fun _ => ?_) fun _ => ?_
        · cases msg.bytes <;> rfl
        · cases Src.encode_variable_int (len msg.data + 1) <;> rfl
        · cases msg.bytes with
          | error e => rfl
          | ok b => simp only []; cases idx b 0 <;> rfl
    have hloop := src_wt_loop cs wtStep (fun _ _ => rfl) fixed [] none hnat
    simp only [writeTrack, hok, Bool.not_true, Bool.false_eq_true, if_false, hfix, bind, Except.bind, pure, Except.pure]
    cases hw : writeEvents cs none fixed <;> simp only [hw, optInt, Option.map_none, List.nil_append] at hloop
    · rw [hloop]
    · obtain ⟨r', hr⟩ := hloop
      rw [hr]
      simp only []
      rw [src_write_chunk out _ _ (hsize fixed _ hfix hw)]
      simp [mtrk, natsToInts, List.append_assoc]
  · simp [writeTrack, hok, throw, throwThe, MonadExceptOf.throw, bind, Except.bind]

theorem packI16_eq (v : Int) : packI16 v = (i16be v).map natsToInts := by
  unfold packI16 i16be
  rw [apply_ite (Except.map natsToInts)]
  refine ite_congr rfl (fun h => ?_) fun _ => rfl
  obtain ⟨k, hk⟩ : ∃ k : Nat, (if v < 0 then v + 65536 else v) = k :=
    ⟨_, (Int.toNat_of_nonneg (by split <;> omega)).symm⟩
  simp only [hk, Int.toNat_natCast, Except.map, natsToInts, List.map_cons, List.map_nil,
    Int.ofNat_eq_natCast, Int.natCast_ediv, Int.natCast_emod, Int.cast_ofNat_Int]

/-- the hypothesis of `src_write_track` for every track of a file -/
def tracksFit (cs : Charset) (trs : List (List TEvent)) : Prop :=
  ∀ tr ∈ trs, ∀ fixed body, fixEotEvents (.int 0) tr = .ok fixed → writeEvents cs none fixed = .ok body →
    body.length < 4294967296

theorem src_save_loop (cs : Charset) (F : List TMsg → List Int → Except Err (ForInStep (List Int)))
    (hF : ∀ track s, F track s = (match Src.write_track s track with
      | .error err => .error err | .ok v => .ok (.yield v.2))) :
    ∀ (trs : List (List TEvent)) (out : List Int), tracksFit cs trs →
      forIn (trs.map (·.map (TEvent.toW cs))) out F =
        match writeTracks cs trs with
        | .ok b => .ok (out ++ natsToInts b)
        | .error e => .error e
  | [], out, _ => by simp [writeTracks, natsToInts, pure, Except.pure]
  | tr :: trs, out, hfit => by
    rw [List.map_cons, List.forIn_cons, hF, src_write_track cs out tr (hfit tr (List.mem_cons_self ..))]
    simp only [writeTracks, bind, Except.bind, pure, Except.pure]
    cases writeTrack cs tr with
    | error e => rfl
    | ok a =>
      simp only []
      rw [src_save_loop cs F hF trs (out ++ natsToInts a) fun t ht => hfit t (List.mem_cons_of_mem _ ht)]
      cases writeTracks cs trs with
      | error e => rfl
      | ok b => simp [natsToInts_append, List.append_assoc]

/-- `MidiFile.save(file=…)`, as translated from the source (type-0 rule, `struct.pack('>hhh', …)`, header chunk, one
    `write_track` per track), writes for EVERY file the bytes of the model's `writeFile`, and raises where it raises -/
theorem src_save (cs : Charset) (out : List Int) (f : MFile) (hfit : tracksFit cs f.tracks) :
    Src.MidiFile.save f.type (f.tracks.map (·.map (TEvent.toW cs))) f.tpb out =
      match writeFile cs f with
      | .ok b => .ok ((), out ++ natsToInts b)
      | .error e => .error e := by
  unfold Src.MidiFile.save Src.MidiFile._save writeFile
  simp only [len, List.length_map, natCast_bne_lit, Bool.and_eq_true, beq_iff_eq, bne_iff_ne]
  split
  · rfl
  simp only [packI16x3, packI16_eq, bind, Except.bind, pure, Except.pure]
  cases ha : i16be f.type with
  | error e => rfl
  | ok a =>
    cases hb : i16be (f.tracks.length : Int) with
    | error e => rfl
    | ok b =>
      cases hc : i16be f.tpb with
      | error e => rfl
      | ok c =>
        have h6 : (a ++ b ++ c).length = 6 := by
          simp [i16be_length _ a ha, i16be_length _ b hb, i16be_length _ c hc]
        have hch := src_write_chunk out [77, 84, 104, 100] (a ++ b ++ c) (by omega)
        simp only [Except.map, natsToInts_append, h6] at hch ⊢
        rw [hch]
        simp only []
        have hloop := fun F hF out' => src_save_loop cs F hF f.tracks out' hfit
        rw [hloop]
        case hF => intro track s; cases Src.write_track s track <;> rfl
        cases writeTracks cs f.tracks with
        | error e => rfl
        | ok body => simp [mthd, natsToInts, List.append_assoc]

end Mido
