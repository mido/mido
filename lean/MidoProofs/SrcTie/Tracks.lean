import MidoModel.Generated.SrcTracks
import MidoProofs.SrcTie.Loops
import MidoProofs.Props.C12
import MidoProofs.Lemmas.Except
/-!
  Source tie for mido/midifiles/tracks.py (generators become lists, `msg.copy(time=…)` a record update,
  `list.sort(key=time)` a stable merge sort).
-/
namespace Mido
open Mido.Py

/-- a model event as the translator's message record; `isMeta`, `bytes` as in the end_of_track record that
    `fix_end_of_track` creates -/
def TEv.toSrc (e : TEv) : TMsg :=
  { id := e.id, eot := e.eot, time := e.time, isMeta := e.eot, bytes := if e.eot then .ok [255, 47, 0] else .ok [] }

@[simp] theorem TEv.toSrc_time (e : TEv) : e.toSrc.time = e.time := rfl
@[simp] theorem TEv.toSrc_eot (e : TEv) : e.toSrc.eot = e.eot := rfl

theorem TEv.toSrc_setTime (e : TEv) (t : Nat) :
    { e.toSrc with time := (t : Int) } = TEv.toSrc { e with time := t } := rfl

theorem src_abs_loop {F : TMsg → List TMsg × Int → Except Err (ForInStep (List TMsg × Int))}
    (hF : ∀ msg s, F msg s = pure (.yield (s.1 ++ [{ msg with time := s.2 + msg.time }], s.2 + msg.time)))
    (es : List TEv) : ∀ (out : List TMsg) (now : Nat),
      forIn (es.map TEv.toSrc) (out, (now : Int)) F
        = .ok (out ++ (absFrom now es).map TEv.toSrc, ((totalFrom now es : Nat) : Int)) := by
  induction es with
  | nil => intro out now; simp [absFrom, totalFrom, pure, Except.pure]
  | cons e es ih =>
    intro out now
    rw [List.map_cons, forIn_cons_yield (hF _ _)]
    simp only [TEv.toSrc_time, ← Int.natCast_add, TEv.toSrc_setTime]
    rw [ih]
    simp [absFrom, totalFrom]

theorem src_to_abstime (es : List TEv) :
    Src._to_abstime (es.map TEv.toSrc) = .ok ((toAbs es).map TEv.toSrc) := by
  simp only [Src._to_abstime]
  rw [← Int.natCast_zero, src_abs_loop (fun _ _ => rfl) es [] 0]
  rfl

/-- `fix_end_of_track`'s loop on arbitrary message records (what the file writer needs): the twin of the model's `fixAcc` -/
def fixTAcc : Int → List TMsg → List TMsg × Int
  | acc, [] => ([], acc)
  | acc, m :: ms =>
    if m.eot then fixTAcc (acc + m.time) ms
    else
      let m' := if acc != 0 then { m with time := acc + m.time } else m
      let r := fixTAcc 0 ms
      (m' :: r.1, r.2)

/-- the end_of_track message `fix_end_of_track` creates (`id` is the opaque identity that `tracks.py` keeps under
    `copy`; the writer never reads it, so it is 0 here and in `TEvent.toW`) -/
def eotT (acc : Int) : TMsg := { id := 0, eot := true, time := acc, isMeta := true, bytes := .ok [255, 47, 0] }

theorem fixTAcc_cons (acc : Int) (m : TMsg) (ms : List TMsg) :
    fixTAcc acc (m :: ms) =
      if m.eot then fixTAcc (acc + m.time) ms
      else ({ m with time := acc + m.time } :: (fixTAcc 0 ms).1, (fixTAcc 0 ms).2) := by
  rw [fixTAcc]
  by_cases ha : acc = 0 <;> simp [ha]

theorem src_fixT_loop {F : TMsg → List TMsg × Int → Except Err (ForInStep (List TMsg × Int))}
    (hF : ∀ msg s, F msg s =
      if msg.eot = true then pure (.yield (s.1, s.2 + msg.time))
      else if (s.2 != 0) = true then pure (.yield (s.1 ++ [{ msg with time := s.2 + msg.time }], 0))
      else pure (.yield (s.1 ++ [msg], s.2))) :
    ∀ (ms : List TMsg) (out : List TMsg) (acc : Int),
      forIn ms (out, acc) F = .ok (out ++ (fixTAcc acc ms).1, (fixTAcc acc ms).2)
  | [], out, acc => by simp [fixTAcc, pure, Except.pure]
  | m :: ms, out, acc => by
    rw [fixTAcc_cons]
    by_cases he : m.eot = true
    · rw [forIn_cons_yield ((hF _ _).trans (if_pos he)), if_pos he]
      exact src_fixT_loop hF ms out (acc + m.time)
    · have hstep : F m (out, acc) = .ok (.yield (out ++ [{ m with time := acc + m.time }], 0)) := by
        rw [hF, if_neg he]
        by_cases ha : acc = 0 <;> simp [ha, pure, Except.pure]
      rw [forIn_cons_yield hstep, if_neg he, src_fixT_loop hF ms _ 0]
      simp

theorem src_fix_gen (ms : List TMsg) :
    Src.fix_end_of_track ms = .ok ((fixTAcc 0 ms).1 ++ [eotT (fixTAcc 0 ms).2]) := by
  simp only [Src.fix_end_of_track]
  rw [src_fixT_loop (fun _ _ => rfl) ms [] 0]
  rfl

theorem fixTAcc_toSrc (es : List TEv) : ∀ acc : Nat,
    fixTAcc (acc : Int) (es.map TEv.toSrc) = ((fixAcc acc es).1.map TEv.toSrc, (((fixAcc acc es).2 : Nat) : Int)) := by
  induction es with
  | nil => intro acc; rfl
  | cons e es ih =>
    intro acc
    rw [List.map_cons, fixTAcc_cons]
    simp only [TEv.toSrc_time, ← Int.natCast_add, TEv.toSrc_setTime]
    cases he : e.eot
    · rw [if_neg (by simp [he]), ← Int.natCast_zero, ih, fixAcc_cons_keep he]
      simp [he]
    · rw [if_pos (by simp [he]), ih, fixAcc_cons_eot he]

theorem src_fix_end_of_track (es : List TEv) :
    Src.fix_end_of_track (es.map TEv.toSrc) = .ok ((fixEOT es).map TEv.toSrc) := by
  rw [src_fix_gen, ← Int.natCast_zero, fixTAcc_toSrc, fixEOT, List.map_append]
  rfl

theorem src_rel_loop {F : TMsg → List TMsg × Int → Except Err (ForInStep (List TMsg × Int))}
    (hF : ∀ msg s, F msg s = pure (.yield (s.1 ++ [{ msg with time := msg.time - s.2 }], msg.time)))
    (es : List TEv) : ∀ (out : List TMsg) (now : Nat), chainLe now es →
      ∃ n, forIn (es.map TEv.toSrc) (out, (now : Int)) F = .ok (out ++ (relFrom now es).map TEv.toSrc, n) := by
  induction es with
  | nil => intro out now _; exact ⟨now, by simp [relFrom, pure, Except.pure]⟩
  | cons e es ih =>
    intro out now hc
    rw [List.map_cons, forIn_cons_yield (hF _ _)]
    simp only [TEv.toSrc_time, ← Int.natCast_sub hc.1, TEv.toSrc_setTime]
    obtain ⟨n, h⟩ := ih (out ++ [TEv.toSrc { e with time := e.time - now }]) e.time hc.2
    exact ⟨n, by simp [h, relFrom]⟩

theorem src_to_reltime (es : List TEv) (hc : chainLe 0 es) :
    Src._to_reltime (es.map TEv.toSrc) = .ok ((toRel es).map TEv.toSrc) := by
  simp only [Src._to_reltime]
  obtain ⟨n, h⟩ := src_rel_loop (fun _ _ => rfl) es [] 0 hc
  rw [← Int.natCast_zero, h]
  rfl

/-- on a list that is NOT sorted the Python code produces a negative delta where the model (natural numbers)
    truncates: the hypothesis of `src_to_reltime` is necessary, and `merge_tracks` always meets it -/
example : Src._to_reltime [{ id := 1, eot := false, time := 5 }, { id := 2, eot := false, time := 3 }]
    = .ok [{ id := 1, eot := false, time := 5 }, { id := 2, eot := false, time := -2 }] := by decide

theorem src_merge_loop {F : List TMsg → List TMsg → Except Err (ForInStep (List TMsg))}
    (hF : ∀ track s, F track s = (do let v ← Src._to_abstime track; pure (ForInStep.yield (s ++ v))))
    (ts : List (List TEv)) : ∀ (acc : List TMsg),
      forIn (ts.map (·.map TEv.toSrc)) acc F = .ok (acc ++ (ts.flatMap toAbs).map TEv.toSrc) := by
  induction ts with
  | nil => intro acc; simp [pure, Except.pure]
  | cons t ts ih =>
    intro acc
    rw [List.map_cons, forIn_cons_yield (by rw [hF, src_to_abstime]; rfl), ih]
    simp

theorem src_sortByTime (es : List TEv) :
    sortByTime (es.map TEv.toSrc) = (es.mergeSort leTime).map TEv.toSrc := by
  unfold sortByTime
  rw [← List.map_mergeSort]
  intro a _ b _
  simp [leTime, TEv.toSrc]

/-- `merge_tracks`, as translated from the source, is the model's `mergeTracks` on every list of tracks -/
theorem src_merge_tracks (ts : List (List TEv)) :
    Src.merge_tracks (ts.map (·.map TEv.toSrc)) = .ok ((mergeTracks ts).map TEv.toSrc) := by
  have hsorted : chainLe 0 ((ts.flatMap toAbs).mergeSort leTime) := chainLe_sortedAll ts
  simp only [Src.merge_tracks]
  rw [src_merge_loop (fun _ _ => rfl) ts []]
  simp only [ok_bind, List.nil_append, src_sortByTime, src_to_reltime _ hsorted, src_fix_end_of_track, mergeTracks]

end Mido
