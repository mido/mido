import MidoModel.Generated.SrcTables
import MidoProofs.Lemmas.Codec
import MidoProofs.SrcTie.Basic
/-!
  The tables the translated code looks up by status byte (`SPEC_BY_STATUS`, `CHANNEL_MESSAGES`, decode's `_SPECIAL_CASES`),
  each compared once with the tabulation of a closed form; every lookup is then a corollary.  Each is stated for every `n`
  with the key as a cast (what the ties use) and again for `n < 256` with `Int.ofNat n` (the statements registered for the checks).
-/
namespace Mido
open Mido.Py

/-- `SPEC_BY_STATUS` of specs.py in closed form; length 0 stands for the `float('inf')` of sysex -/
def rowOf (n : Nat) : Except Err SpecRow :=
  if n < 0x80 then .error .KeyError
  else if n < 0x90 then .ok ⟨"note_off", 3, 0x80, ["channel", "note", "velocity"]⟩
  else if n < 0xa0 then .ok ⟨"note_on", 3, 0x90, ["channel", "note", "velocity"]⟩
  else if n < 0xb0 then .ok ⟨"polytouch", 3, 0xa0, ["channel", "note", "value"]⟩
  else if n < 0xc0 then .ok ⟨"control_change", 3, 0xb0, ["channel", "control", "value"]⟩
  else if n < 0xd0 then .ok ⟨"program_change", 2, 0xc0, ["channel", "program"]⟩
  else if n < 0xe0 then .ok ⟨"aftertouch", 2, 0xd0, ["channel", "value"]⟩
  else if n < 0xf0 then .ok ⟨"pitchwheel", 3, 0xe0, ["channel", "pitch"]⟩
  else if n = 0xf0 then .ok ⟨"sysex", 0, 0xf0, ["data"]⟩
  else if n = 0xf1 then .ok ⟨"quarter_frame", 2, 0xf1, ["frame_type", "frame_value"]⟩
  else if n = 0xf2 then .ok ⟨"songpos", 3, 0xf2, ["pos"]⟩
  else if n = 0xf3 then .ok ⟨"song_select", 2, 0xf3, ["song"]⟩
  else match s1OfStatus n with
    | some k => .ok ⟨k.name, 1, n, []⟩
    | none => .error .KeyError

theorem spec_table : Src.SPEC_BY_STATUS = tabulate 256 rowOf := by decide +kernel

theorem rowOf_err {n : Nat} {e : Err} (h : rowOf n = .error e) : e = .KeyError := by
  revert h
  fun_cases rowOf n <;> intro h <;> cases h <;> rfl

theorem rowOf_ge {n : Nat} (h : 256 ≤ n) : rowOf n = .error .KeyError := by
  unfold rowOf
  repeat rw [if_neg (by omega)]
  unfold s1OfStatus
  repeat rw [if_neg (by omega)]

theorem spec_get (n : Nat) : dictGet Src.SPEC_BY_STATUS (n : Int) = rowOf n := by
  rw [spec_table]; exact dictGet_tabulate rowOf 256 n (fun _ => rowOf_err) rowOf_ge

theorem spec_rows : ∀ n < 256, dictGet Src.SPEC_BY_STATUS (Int.ofNat n) = rowOf n := fun n _ => spec_get n

theorem spec_out (s : Int) (h : s < 0 ∨ 256 ≤ s) : dictGet Src.SPEC_BY_STATUS s = .error .KeyError := by
  rw [spec_table]; exact dictGet_tabulate_out rowOf 256 s h

theorem rowOf_model : ∀ n < 256,
    if definedStatus n then (rowOf n).map (·.length) = .ok (Int.ofNat ((specLen n).getD 0))
    else rowOf n = .error .KeyError := by
  decide +kernel

theorem rowOf_specLen {n L : Nat} {row : SpecRow} (hn : n < 256) (hrow : rowOf n = .ok row)
    (hlen : row.length = ((L + 1 : Nat) : Int)) : definedStatus n = true ∧ specLen n = some (L + 1) := by
  have hm := rowOf_model n hn
  rw [hrow] at hm
  split at hm
  case isFalse => cases hm
  case isTrue hd =>
    replace hm : ((L + 1 : Nat) : Int) = ((specLen n).getD 0 : Nat) := hlen.symm.trans (Except.ok.inj hm)
    refine ⟨hd, ?_⟩
    cases hs : specLen n <;> rw [hs] at hm <;> simp only [Option.getD] at hm
    · omega
    · congr 1; omega

theorem spec_len (s : Nat) (h : s < 256) :
    if definedStatus s then (dictGet Src.SPEC_BY_STATUS (Int.ofNat s)).map (·.length) = .ok (Int.ofNat ((specLen s).getD 0))
    else dictGet Src.SPEC_BY_STATUS (Int.ofNat s) = .error .KeyError := by
  rw [spec_rows s h]; exact rowOf_model s h

theorem spec_len_get (s : Nat) :
    if definedStatus s = true then
      ∃ row, dictGet Src.SPEC_BY_STATUS (s : Int) = .ok row ∧ row.length = (((specLen s).getD 0 : Nat) : Int)
    else dictGet Src.SPEC_BY_STATUS (s : Int) = .error .KeyError := by
  rw [spec_get]
  by_cases hs : s < 256
  · have h := rowOf_model s hs
    cases hd : definedStatus s <;> simp only [hd, Bool.false_eq_true, if_true, if_false] at h ⊢
    · exact h
    · exact map_eq_ok.mp h
  · rw [if_neg fun h => hs (defined_small s h)]
    exact rowOf_ge (by omega)

theorem chan_table : Src.CHANNEL_MESSAGES = (List.range' 128 112).map Int.ofNat := by decide +kernel

theorem chan_elem (n : Nat) : List.elem (n : Int) Src.CHANNEL_MESSAGES = decide (0x80 ≤ n ∧ n < 0xf0) := by
  rw [chan_table, List.elem_eq_mem, decide_eq_decide, List.mem_map]
  constructor
  · rintro ⟨m, hm, he⟩; cases he; rw [List.mem_range'_1] at hm; omega
  · intro h; exact ⟨n, by rw [List.mem_range'_1]; omega, rfl⟩

theorem chan_has : ∀ n < 256, List.elem (Int.ofNat n) Src.CHANNEL_MESSAGES = decide (0x80 ≤ n ∧ n < 0xf0) :=
  fun n _ => chan_elem n

theorem chan_has_240 : List.elem (240 : Int) Src.CHANNEL_MESSAGES = false := chan_elem 240

/-- the name of the dedicated decoder of a status byte -/
def specialFn (n : Nat) : Except Err String :=
  if 224 ≤ n ∧ n < 240 then .ok "_decode_pitchwheel_data" else if n = 240 then .ok "_decode_sysex_data"
  else if n = 241 then .ok "_decode_quarter_frame_data" else if n = 242 then .ok "_decode_songpos_data"
  else .error .KeyError

theorem special_table : Src.decode_SPECIAL_CASES = tabulate 256 specialFn := by decide +kernel

theorem special_get (n : Nat) : dictGet Src.decode_SPECIAL_CASES (n : Int) = specialFn n := by
  rw [special_table]
  refine dictGet_tabulate specialFn 256 n (fun e h => ?_) fun h => ?_
  · simp only [specialFn, ite_ok_eq_error] at h
    exact (Except.error.inj h.2.2.2.2).symm
  · unfold specialFn
    repeat rw [if_neg (by omega)]

theorem special_fn : ∀ n < 256, dictGet Src.decode_SPECIAL_CASES (Int.ofNat n) =
    (if 224 ≤ n ∧ n < 240 then .ok "_decode_pitchwheel_data" else if n = 240 then .ok "_decode_sysex_data"
     else if n = 241 then .ok "_decode_quarter_frame_data" else if n = 242 then .ok "_decode_songpos_data"
     else .error .KeyError) := fun n _ => special_get n

theorem special_mem (n : Nat) : dictHas Src.decode_SPECIAL_CASES (n : Int) = decide (0xe0 ≤ n ∧ n ≤ 0xf2) := by
  rw [dictHas_eq_isOk, special_get]
  fun_cases specialFn n
  case case1 => rw [decide_eq_true (by omega)]; rfl
  case case5 => rw [decide_eq_false (by omega)]; rfl
  all_goals subst n; rfl

theorem special_has : ∀ n < 256, dictHas Src.decode_SPECIAL_CASES (Int.ofNat n) = decide (0xe0 ≤ n ∧ n ≤ 0xf2) :=
  fun n _ => special_mem n

end Mido
