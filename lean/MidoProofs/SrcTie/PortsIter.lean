/-
  Source tie for `BaseInput.__iter__` (`try: yield self.receive() except (OSError, ValueError): if self.closed: return else:
  raise`) against the model's `iterAll`.
-/
import MidoProofs.SrcTie.Ports
namespace Mido
open Mido.Py

/-- `iterAll` with every `receive()` given `F` polling rounds: what the translated `__iter__` is tied to -/
def Port.iterAllF (F : Nat) : Nat → Port → List Nat → Port × List Nat × Ending
  | 0, p, acc => (p, acc, .hang)
  | fuel + 1, p, acc =>
    match p.receiveF F true with
    | (p', .msg m) => Port.iterAllF F fuel p' (acc ++ [m])
    | (p', .raised e) =>
      if (e = .OSError ∨ e = .ValueError) ∧ p'.closed then (p', acc, .normal) else (p', acc, .raised e)
    | (p', .none) => (p', acc, .raised .Other)
    | (p', .hang) => (p', acc, .hang)

/-- the loop of `BaseInput.__iter__`: `receive()` until it raises; OSError / ValueError on a closed port end the iteration
    silently, anything else (or an open port) is raised -/
theorem src_iter_all_loop (F f2' : Nat) : ∀ (fuel2 : Nat) (p : Port) (acc : List Nat),
    Src.BaseInput.iter_all.loop1 modelPortExt F f2' fuel2 acc p.toSrc =
      ((endSrc (Port.iterAllF F fuel2 p acc).2.1 (Port.iterAllF F fuel2 p acc).2.2).map Sum.inl,
       (Port.iterAllF F fuel2 p acc).1.toSrc)
  | 0, p, acc => rfl
  | n + 1, p, acc => by
    have hnn := receiveF_block_not_none F p
    rw [Src.BaseInput.iter_all.loop1, Port.iterAllF]
    simp only [if_true, PM.run_bind, PM.run_tryCatch, src_port_receiveF, PM.run_pure]
    generalize p.receiveF F true = r at hnn
    obtain ⟨p', o⟩ := r
    cases o with
    | msg m => exact src_iter_all_loop F f2' n p' (acc ++ [m])
    | none => exact absurd rfl hnn
    | hang => rfl
    | raised e =>
      -- whether the `except` clause takes `e` is the model's test
      simp only [routSrc, Bool.or_eq_true, beq_iff_eq]
      by_cases he : e = .OSError ∨ e = .ValueError
      · simp only [he, if_true, true_and]
        obtain ⟨k, cl, qu, ar, sc, lg, sl, bu⟩ := p'
        cases cl <;> rfl
      · simp only [he, if_false, false_and]
        rfl

/-- `BaseInput.__iter__` run to its end -/
theorem src_port_iter_all (p : Port) (F fuel2 : Nat) :
    Src.BaseInput.iter_all modelPortExt F fuel2 p.toSrc =
      (endSrc (Port.iterAllF F fuel2 p []).2.1 (Port.iterAllF F fuel2 p []).2.2, (Port.iterAllF F fuel2 p []).1.toSrc) := by
  unfold Src.BaseInput.iter_all
  simp only [PM.run_bind, src_iter_all_loop]
  obtain ⟨p', acc, e⟩ := Port.iterAllF F fuel2 p []
  cases e <;> rfl

/-- as long as the model's iteration does not end in a hang, giving every `receive()` more polling rounds than the model's
    own bound changes nothing -/
theorem iterAllF_eq (F : Nat) : ∀ (n : Nat) (p : Port) (acc : List Nat), p.fuel ≤ F →
    (Port.iterAll n p acc).2.2 ≠ .hang → Port.iterAllF F n p acc = Port.iterAll n p acc
  | 0, p, acc, _, h => absurd rfl h
  | n + 1, p, acc, hF, h => by
    have hfl := receive_fuel_le p true
    rw [Port.iterAll] at h
    rw [Port.iterAllF, Port.iterAll]
    cases hr : p.receive true with
    | mk p' o =>
      rw [hr] at h hfl
      rw [receiveF_eq F p true hF (by rw [hr]; rintro rfl; exact h rfl), hr]
      cases o with
      | msg m => exact iterAllF_eq F n p' _ (Nat.le_trans hfl hF) h
      | _ => rfl

/-- **`for msg in port`** of the source: the messages the model's iteration hands out, the same ending (silently on a port
    that closed, with the exception otherwise), the same port state — for every run of the model that does not hang -/
theorem src_port_iter (p : Port) (F fuel2 : Nat) (hF : p.fuel ≤ F) (hh : (Port.iterAll fuel2 p []).2.2 ≠ .hang) :
    Src.BaseInput.iter_all modelPortExt F fuel2 p.toSrc =
      (endSrc (Port.iterAll fuel2 p []).2.1 (Port.iterAll fuel2 p []).2.2, (Port.iterAll fuel2 p []).1.toSrc) := by
  rw [src_port_iter_all, iterAllF_eq F fuel2 p [] hF hh]

example : (Src.BaseInput.iter_all modelPortExt 9 9 ({ queue := [5], script := [([6, 7], false), ([8], true)] } : Port).toSrc).1 = .ok [5, 6, 7, 8] := by
  decide +kernel

end Mido
