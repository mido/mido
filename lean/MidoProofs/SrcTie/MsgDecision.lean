/-
  The decode_message / encode_message tie and the C02 decision theorem composed.
-/
import MidoProofs.SrcTie.Msg
import MidoProofs.Props.C02
namespace Mido
open Mido.Py

/-- **C02 at the level of the source text**: the translated `decode_message` accepts exactly the well-formed encodings of
    one message — on every list of ints it either returns the dict of a valid message whose encoding is the input, or
    raises ValueError; which of the two is decided by the independent grammar `wellFormed` -/
theorem src_decode_decision (xs : List Int) (t : Int) :
    (wellFormed xs = true ∧ ∃ m : Msg, Src.decode_message xs t = .ok (m.decDict t) ∧ m.Valid ∧
        Src.encode_message (m.decDict t) = .ok xs) ∨
    (wellFormed xs = false ∧ Src.decode_message xs t = .error .ValueError) := by
  rw [src_decode_message]
  rcases C02_decision xs with ⟨hw, m, hm, hv, he⟩ | ⟨hw, hr⟩
  · exact .inl ⟨hw, m, by rw [hm]; rfl, hv,
      by rw [src_encode_message m t (Msg.encodable_of_valid hv), natsToInts, he]⟩
  · exact .inr ⟨hw, by rw [hr]; rfl⟩

end Mido
