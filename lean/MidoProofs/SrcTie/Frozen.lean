/-
  Source tie for mido/frozen.py (`is_frozen`, `freeze_message`, `thaw_message`), translated from the source text with the
  class table read off the classes of the working tree.  A heap object of the model is seen as its class name and its body
  as instance dict; freezing / thawing sets / clears the `frozen` flag and keeps the body.
-/
import MidoModel.Generated.SrcFrozen
import MidoModel.Heap
namespace Mido
open Mido.Py

/-- the class of a heap object of the model -/
def clsOf (o : HObj) : String :=
  match o.frozen, o.body with
  | false, .msg _ => "Message"
  | false, .metaB _ _ => "MetaMessage"
  | false, .unk _ _ _ => "UnknownMetaMessage"
  | true, .msg _ => "FrozenMessage"
  | true, .metaB _ _ => "FrozenMetaMessage"
  | true, .unk _ _ _ => "FrozenUnknownMetaMessage"

/-- a heap object as frozen.py sees it -/
def HObj.toSrc (o : HObj) : PyObj Body := { cls := clsOf o, vars := o.body }

/-- **`is_frozen`** -/
theorem src_is_frozen (o : HObj) :
    Src.is_frozen (some o.toSrc) = .ok o.frozen ∧ Src.is_frozen (none : Option (PyObj Body)) = .ok false := by
  obtain ⟨fr, body⟩ := o
  -- one evaluation per class: the `isinstance` tests are decided by the table `CLASS_MRO_frozen`
  cases fr <;> cases body <;> exact ⟨rfl, rfl⟩

/-- **`freeze_message`** of the source: None for None; a frozen message as it is; otherwise an object of the MATCHING frozen
    class (Message ↦ FrozenMessage, UnknownMetaMessage ↦ FrozenUnknownMetaMessage — tested before its base class —,
    MetaMessage ↦ FrozenMetaMessage) holding the same instance dict — the heap model's `freeze` -/
theorem src_freeze (o : HObj) :
    Src.freeze_message (some o.toSrc) = .ok (some ({ o with frozen := true } : HObj).toSrc) ∧
    Src.freeze_message (none : Option (PyObj Body)) = .ok none := by
  obtain ⟨fr, body⟩ := o
  cases fr <;> cases body <;> exact ⟨rfl, rfl⟩

/-- **`thaw_message`** of the source: None for None; the message's own `copy()` for one that is not frozen; otherwise an
    object of the matching plain class holding the same instance dict — the heap model's `thaw` -/
theorem src_thaw (o : HObj) (copy : PyObj Body → Except Err (PyObj Body)) :
    Src.thaw_message (some o.toSrc) copy =
      (if o.frozen then .ok (some ({ o with frozen := false } : HObj).toSrc) else (copy o.toSrc).map some) ∧
    Src.thaw_message (none : Option (PyObj Body)) copy = .ok none := by
  obtain ⟨fr, body⟩ := o
  cases fr <;> cases body <;> exact ⟨rfl, rfl⟩

/-- freezing then thawing gives back an object of the original class with the original contents, and freezing is idempotent -/
theorem src_freeze_thaw (o : HObj) (copy : PyObj Body → Except Err (PyObj Body)) (h : o.frozen = false) :
    (Src.freeze_message (some o.toSrc) >>= fun f => Src.thaw_message f copy) = .ok (some o.toSrc) ∧
    (Src.freeze_message (some o.toSrc) >>= Src.freeze_message) = Src.freeze_message (some o.toSrc) := by
  obtain ⟨fr, body⟩ := o
  cases h
  constructor <;> rw [(src_freeze _).1]
  · exact (src_thaw _ copy).1
  · exact (src_freeze _).1

/-- anything that is neither a message nor None is refused -/
example : Src.freeze_message (some ({ cls := "int", vars := (default : Body) } : PyObj Body)) = .error .ValueError := rfl
example : Src.thaw_message (some ({ cls := "Frozen", vars := (default : Body) } : PyObj Body)) (fun o => .ok o) = .error .ValueError := rfl

end Mido
