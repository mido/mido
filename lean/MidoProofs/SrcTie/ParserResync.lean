/-
  C04 and C06 restated about the Parser class translated from the source text.
-/
import MidoProofs.SrcTie.Parser
import MidoProofs.Props.C04
import MidoProofs.Props.C06
namespace Mido
open Mido.Py

/-- the queue of a fresh translated Parser after one `feed` -/
def srcParse (bs : List Nat) : Except Err (List Msg) :=
  (Src.Parser.feed parserExt ({ messages := [], _tok := {} } : Src.Parser Msg) (natsToInts bs)).map (·.messages)

theorem srcParse_eq (bs : List Nat) (h : ∀ b ∈ bs, b < 256) : srcParse bs = parseAll bs := by
  unfold srcParse
  rw [src_fresh_feed bs h]
  cases parseAll bs <;> rfl

/-- **C04 about the translated Parser**: any bytes 0..255 — no exception, every message valid, the encodings of the messages
    are the tokens of the input in order; each defined real-time byte gives exactly one real-time message; the bytes of the
    other messages form a subsequence of the input -/
theorem src_parser_total (bs : List Nat) (h : ∀ b ∈ bs, b < 256) :
    ∃ ms, srcParse bs = .ok ms ∧ (∀ m ∈ ms, m.Valid) ∧ ms.map encode = tokenize bs ∧
      (ms.filter Msg.isRealtime).map encode = (bs.filter definedRt).map (fun b => [b]) ∧
      List.Sublist ((ms.filter (fun m => !m.isRealtime)).map encode).flatten (bs.filter (fun b => !isRtByte b)) := by
  obtain ⟨ms, hp, hv, he⟩ := C04_total bs h
  exact ⟨ms, by rw [srcParse_eq bs h, hp], hv, he, C04_realtime bs h ms hp, C04_subseq bs h ms hp⟩

/-- **C06 about the translated Parser**: after any prefix a complete message is recognised; a concatenation of encodings
    parses back to the same list -/
theorem src_parser_resync (P : List Nat) (hP : ∀ b ∈ P, b < 256) (m : Msg) (h : m.Valid) (ms : List Msg) (hms : ∀ m ∈ ms, m.Valid) :
    srcParse (P ++ encode m) = .ok (parsed P ++ [m]) ∧ srcParse (ms.flatMap encode) = .ok ms :=
  ⟨(srcParse_eq _ (List.forall_mem_append.mpr ⟨hP, encode_bytes_lt m h⟩)).trans (C06_prefix P hP m h),
    (srcParse_eq _ (encodes_bytes_lt ms hms)).trans (C06_concat ms hms)⟩

/-- real-time bytes inside a sysex message are delivered ahead of it and the payload is unchanged -/
theorem src_parser_sysex_rt (P : List Nat) (hP : ∀ b ∈ P, b < 256) (xs : List Nat)
    (hx : ∀ x ∈ xs, x < 128 ∨ (0xF8 ≤ x ∧ x < 256)) :
    srcParse (P ++ ([0xF0] ++ xs ++ [0xF7])) =
      .ok (parsed P ++ (xs.filter definedRt).map rtMsg ++ [.sysex (xs.filter (· < 128))]) := by
  have hxs : ∀ b ∈ xs, b < 256 := fun b hb => by rcases hx b hb with h | h <;> omega
  rw [srcParse_eq _ (List.forall_mem_append.mpr ⟨hP, List.forall_mem_append.mpr
    ⟨List.forall_mem_append.mpr ⟨by simp, hxs⟩, by simp⟩⟩)]
  exact C06_sysex_rt P hP xs hx

example : srcParse [0x90, 1, 0xF8, 2, 0xF0, 5, 0xFA, 6, 0xF7, 0x33] = .ok [.sys1 .clock, .sys1 .start, .sysex [5, 6]] := by
  decide +kernel

end Mido
