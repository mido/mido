/-
  The tracks tie and the C12 theorems composed.
-/
import MidoProofs.SrcTie.Tracks
namespace Mido
open Mido.Py List

/-- **C12 at the level of the source text**: the translated `merge_tracks` returns a track `res` (never raises) whose
    non-end_of_track events are exactly those of all inputs, each at its absolute tick, ordered by absolute time with ties
    in track order then in-track order, followed by exactly one end_of_track, and whose total duration is that of the
    longest input. -/
theorem src_merge_property (ts : List (List TEv)) :
    ∃ res, Src.merge_tracks (ts.map (·.map TEv.toSrc)) = .ok (res.map TEv.toSrc) ∧
      ((toAbs res).filter notEot).Perm (A ts) ∧
      ((toAbs res).filter notEot).Pairwise (fun a b => a.time ≤ b.time) ∧
      (∀ a b, [a, b] <+ A ts → a.time ≤ b.time → [a, b] <+ (toAbs res).filter notEot) ∧
      (∃ init d, res = init ++ [⟨eotId, true, d⟩] ∧ ∀ e ∈ init, e.eot = false) ∧
      total res = (ts.map total).foldl max 0 :=
  ⟨mergeTracks ts, src_merge_tracks ts, C12_perm ts, C12_sorted ts, C12_stable ts,
    C12_one_eot ts, C12_duration ts⟩

end Mido
