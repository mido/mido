/-
  The writer tie, the reader tie and the C07 theorem composed: the save/load round trip stated about the functions
  translated from the source text.
-/
import MidoProofs.SrcTie.Writer
import MidoProofs.SrcTie.Reader
import MidoProofs.Props.C07
namespace Mido
open Mido.Py

theorem tracksFit_of_storable (cs : Charset) (f : MFile) (hs : StorableFile cs f) (bytes : List Nat)
    (hw : writeFile cs f = .ok bytes) : tracksFit cs f.tracks := by
  intro tr htr fixed body hfix hbody
  obtain ⟨_, _, _, all, _, _, _, hall, _⟩ := writeFile_ok hw
  obtain ⟨c, hc, _⟩ := writeTracks_mem hall tr htr
  have hlen := hs.chunk tr htr c hc
  obtain ⟨_, fixed', body', hfix', hbody', rfl⟩ := writeTrack_ok hc
  cases hfix.symm.trans hfix'
  cases hbody.symm.trans hbody'
  rw [List.length_append] at hlen
  omega

/-- **C07 at the level of the source text.**  For every storable file whose save succeeds, the translated
    `MidiFile.save` writes some bytes, and the translated `MidiFile._load` (clip off), run on exactly those bytes, gives
    back the type, the ticks per beat and per track the events of `fix_end_of_track(track)` -/
theorem src_save_load (cs : Charset) (f : MFile) (hs : StorableFile cs f) (bytes : List Nat)
    (hw : writeFile cs f = .ok bytes) (ty0 tpb0 : Int) :
    Src.MidiFile.save f.type (f.tracks.map (·.map (TEvent.toW cs))) f.tpb [] = .ok ((), natsToInts bytes) ∧
    (Src.MidiFile._load (modelExt cs) ty0 tpb0 [] false (mkFile bytes 0)).map
        (fun r => (r.1, r.2.1, r.2.2.1)) = .ok (f.type, f.tpb, f.tracks.map normTrack) := by
  constructor
  · have := src_save cs [] f (tracksFit_of_storable cs f hs bytes hw)
    rw [hw] at this
    simpa using this
  · have hl := src_load cs false bytes ty0 tpb0 []
    rw [C07_roundtrip cs f hs bytes hw] at hl
    revert hl
    rcases Src.MidiFile._load (modelExt cs) ty0 tpb0 [] false (mkFile bytes 0) with _ | r <;>
      simp +contextual [Except.map]

end Mido
