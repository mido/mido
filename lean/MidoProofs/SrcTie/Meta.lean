import MidoModel.Meta
import MidoModel.Generated.SrcMetaNum
import MidoProofs.SrcTie.Basic
import MidoProofs.SrcTie.Codec
import MidoProofs.Lemmas.MetaRt
/-!
  Source tie for the numeric meta specs of mido/midifiles/meta.py (`encode` / `decode` / `check`, `check_int`, the power-of-two
  test `value & (value - 1)`) against `metaPayload`, `metaDecodePayload`, `metaCheckAttr`, `isPow2`.
-/
namespace Mido
open Mido.Py

theorem src_check_int (v lo hi : Int) : Src.check_int v lo hi = checkInt (.int v) lo hi := by
  src_range Src.check_int

/-! encode: unfolded, the lists agree item by item (`shrN`, `land` on casts are the `Nat` operations by definition) -/

theorem src_meta_sequence_number_encode (n : Nat) :
    Src.MetaSpec_sequence_number.encode n =
      (metaPayload .latin1 ⟨.sequence_number, [.nat n]⟩).map natsToInts := by
  simp only [Src.MetaSpec_sequence_number.encode, metaPayload]; rfl

theorem src_meta_channel_prefix_encode (n : Nat) :
    Src.MetaSpec_channel_prefix.encode n =
      (metaPayload .latin1 ⟨.channel_prefix, [.nat n]⟩).map natsToInts := by
  simp only [Src.MetaSpec_channel_prefix.encode, metaPayload]; rfl

theorem src_meta_midi_port_encode (n : Nat) :
    Src.MetaSpec_midi_port.encode n =
      (metaPayload .latin1 ⟨.midi_port, [.nat n]⟩).map natsToInts := by
  simp only [Src.MetaSpec_midi_port.encode, metaPayload]; rfl

theorem src_meta_set_tempo_encode (n : Nat) :
    Src.MetaSpec_set_tempo.encode n =
      (metaPayload .latin1 ⟨.set_tempo, [.nat n]⟩).map natsToInts := by
  simp only [Src.MetaSpec_set_tempo.encode, metaPayload]; rfl

/-- `time_signature`: `denominator.bit_length() - 1` is the exponent the model writes -/
theorem src_meta_time_signature_encode (n d c b : Nat) (hd : 0 < d) :
    Src.MetaSpec_time_signature.encode n d c b =
      (metaPayload .latin1 ⟨.time_signature, [.nat n, .nat d, .nat c, .nat b]⟩).map natsToInts := by
  simp [Src.MetaSpec_time_signature.encode, metaPayload, PyVal.nat, natOf, intOf, natsToInts, Except.map,
    pure, Except.pure, bitLength, Nat.ne_of_gt hd, log2_eq_log2Nat]

theorem src_meta_checks (name : String) (v : Int) :
    Src.MetaSpec_sequence_number.check name v = metaCheckAttr .sequence_number 0 (.int v) ∧
    Src.MetaSpec_channel_prefix.check name v = metaCheckAttr .channel_prefix 0 (.int v) ∧
    Src.MetaSpec_midi_port.check name v = metaCheckAttr .midi_port 0 (.int v) ∧
    Src.MetaSpec_set_tempo.check name v = metaCheckAttr .set_tempo 0 (.int v) := by
  refine ⟨?_, ?_, ?_, ?_⟩ <;> exact bind_pure_unit.trans (src_check_int ..)

/-! decode: Python assigns to `message`; the translation returns the new values and takes the old ones (`old`, `o1 … o4`),
    which none of these decoders keeps -/

theorem src_meta_sequence_number_decode (old : Int) (data : List Nat) :
    (Src.MetaSpec_sequence_number.decode old (natsToInts data)).map (fun v => [PyVal.int v]) =
      metaDecodePayload .latin1 .sequence_number data := by
  match data with
  | [] | [a] => simp [Src.MetaSpec_sequence_number.decode, metaDecodePayload, natsToInts, Py.len, Except.map,
      pure, Except.pure, bind, Except.bind, idx]
  | a :: b :: r =>
    have : ¬ ((r.length : Int) + 1 + 1 = 0) := by omega
    simp [this, Src.MetaSpec_sequence_number.decode, metaDecodePayload, natsToInts, Py.len, Except.map,
      pure, Except.pure, bind, Except.bind, PyVal.nat, -Int.natCast_shiftRight, -Int.natCast_shiftLeft]

theorem src_meta_channel_prefix_decode (old : Int) (data : List Nat) :
    (Src.MetaSpec_channel_prefix.decode old (natsToInts data)).map (fun v => [PyVal.int v]) =
      metaDecodePayload .latin1 .channel_prefix data := by
  cases data <;> simp [Src.MetaSpec_channel_prefix.decode, metaDecodePayload, natsToInts, Except.map,
    pure, Except.pure, bind, Except.bind, PyVal.nat]

theorem src_meta_midi_port_decode (old : Int) (data : List Nat) :
    (Src.MetaSpec_midi_port.decode old (natsToInts data)).map (fun v => [PyVal.int v]) =
      metaDecodePayload .latin1 .midi_port data := by
  have : ∀ r : List Nat, ¬ ((r.length : Int) + 1 = 0) := fun r => by omega
  cases data <;> simp [this, Src.MetaSpec_midi_port.decode, metaDecodePayload, natsToInts, Py.len, Except.map,
    pure, Except.pure, bind, Except.bind, PyVal.nat]

/-- over `Int` variables, so that `idx_zero/one/two` apply before any cast -/
theorem src_set_tempo_decode_ints (old x y z : Int) (r : List Int) :
    Src.MetaSpec_set_tempo.decode old (x :: y :: z :: r) = .ok (lor (lor (shlN x 16) (shlN y 8)) z) := by
  simp only [Src.MetaSpec_set_tempo.decode, idx_zero, idx_one, idx_two, bind, Except.bind, pure, Except.pure]

theorem src_meta_set_tempo_decode (old : Int) (data : List Nat) :
    (Src.MetaSpec_set_tempo.decode old (natsToInts data)).map (fun v => [PyVal.int v]) =
      metaDecodePayload .latin1 .set_tempo data := by
  match data with
  | [] | [a] | [a, b] => simp [Src.MetaSpec_set_tempo.decode, metaDecodePayload, natsToInts, Except.map,
      bind, Except.bind, idx]
  | a :: b :: c :: r =>
    rw [natsToInts, List.map_cons, List.map_cons, List.map_cons, src_set_tempo_decode_ints]
    simp only [Int.ofNat_eq_natCast, shlN_ofNat, lor_ofNat, Except.map, metaDecodePayload, PyVal.nat]

/-- `time_signature`: `2 ** data[1]` -/
theorem src_meta_time_signature_decode (o1 o2 o3 o4 : Int) (data : List Nat) :
    (Src.MetaSpec_time_signature.decode o1 o2 o3 o4 (natsToInts data)).map
        (fun v => [PyVal.int v.1, .int v.2.1, .int v.2.2.1, .int v.2.2.2]) =
      metaDecodePayload .latin1 .time_signature data := by
  have hb : ∀ b : Nat, ¬ ((b : Int) < 0) := fun b => by omega
  match data with
  | [] | [a] | [a, b] | [a, b, c] => simp [hb, Src.MetaSpec_time_signature.decode, metaDecodePayload, natsToInts,
      Except.map, bind, Except.bind, idx, Py.pow]
  | a :: b :: c :: d :: r =>
    simp [hb, Src.MetaSpec_time_signature.decode, metaDecodePayload, natsToInts, Except.map,
      pure, Except.pure, bind, Except.bind, PyVal.nat, Py.pow]

/-- `n & (n - 1) == 0` exactly for the powers of two (n ≥ 1): the bit trick of the source is the model's exact test -/
theorem and_pred_eq_zero_iff (n : Nat) (h : 0 < n) : n &&& (n - 1) = 0 ↔ 2 ^ Nat.log2 n = n := by
  rw [Nat.and_sub_one_eq_zero_iff_isPowerOfTwo (by omega)]
  exact ⟨fun ⟨k, hk⟩ => by rw [hk, Nat.log2_two_pow], fun h => ⟨_, h.symm⟩⟩

theorem isPow2_iff (n : Nat) (h : 0 < n) : isPow2 n = true ↔ n &&& (n - 1) = 0 := by
  rw [and_pred_eq_zero_iff n h, log2_eq_log2Nat]
  simp [isPow2, Nat.ne_of_gt h]

/-- `MetaSpec_time_signature.check`: range checks and the power-of-two test -/
theorem src_meta_time_signature_check (v : Int) :
    Src.MetaSpec_time_signature.check "denominator" v = metaCheckAttr .time_signature 1 (.int v) ∧
    (∀ name i, name ≠ "denominator" → i ≠ 1 →
      Src.MetaSpec_time_signature.check name v = metaCheckAttr .time_signature i (.int v)) := by
  constructor
  · simp only [Src.MetaSpec_time_signature.check, metaCheckAttr, src_check_int, Py.pow, if_true, bind, Except.bind,
      pure, Except.pure]
    simp only [Int.reduceLT, if_false, beq_self_eq_true, if_true, Int.reduceToNat]
    cases hc : checkInt (.int v) 1 (2 ^ 255) with
    | error e => rfl
    | ok u =>
      obtain ⟨n', hv, hr⟩ := checkInt_ok hc
      cases hv
      obtain ⟨n, rfl⟩ := Int.eq_ofNat_of_zero_le (show 0 ≤ v by omega)
      have hn : 0 < n := by omega
      have hsub : ((n : Int) - 1) = ((n - 1 : Nat) : Int) := by omega
      have hl : land (n : Int) ((n : Int) - 1) = ((n &&& (n - 1) : Nat) : Int) := by rw [hsub]; rfl
      simp only [hl, Int.toNat_natCast]
      have hpw : isPow2 n = decide (n &&& (n - 1) = 0) :=
        Bool.eq_iff_iff.mpr (by rw [isPow2_iff n hn, decide_eq_true_iff])
      -- ValueError: in the source when `n & (n - 1) ≠ 0`, in the model when `isPow2 n = false`
      by_cases hz : n &&& (n - 1) = 0 <;> simp [hz, hpw, throw, throwThe, MonadExceptOf.throw]
  · intro name i hname hi
    simp only [Src.MetaSpec_time_signature.check, metaCheckAttr, beq_iff_eq, hname, hi, if_false, src_check_int,
      bind_pure_unit]

end Mido
