import MidoModel.Vlq
import MidoModel.Generated.SrcFileIO
import MidoProofs.SrcTie.Vlq
import MidoProofs.Lemmas.Except
/-!
  The form of the file reader's ties, `Src.f (fileAt T bs) … = atFile T g (model bs)`, and the first of them:
  `read_variable_int` of `mido/midifiles/midifiles.py` is the model's `readVlq`.
-/
namespace Mido
open Mido.Py

/-- the bytes `bs` not yet read, with the file position `p` -/
def mkFile (bs : List Nat) (p : Int) : PyFile := { rest := natsToInts bs, pos := p }

/-- the same file by its total length `T`: a reader maps `fileAt T bs` to `fileAt T rest`, with no position arithmetic -/
def fileAt (T : Int) (bs : List Nat) : PyFile := mkFile bs (T - bs.length)

theorem mkFile_eq_fileAt (bs : List Nat) (p : Int) : mkFile bs p = fileAt (p + bs.length) bs := by
  simp [fileAt]

theorem tell_fileAt (T : Int) (bs : List Nat) : tell (fileAt T bs) = T - bs.length := rfl

theorem length_rest_fileAt (T : Int) (bs : List Nat) : (fileAt T bs).rest.length = bs.length := by
  simp [fileAt, mkFile, natsToInts]

theorem readByte_fileAt (T : Int) (b : Nat) (r : List Nat) :
    readByte (fileAt T (b :: r)) = .ok ((b : Int), fileAt T r) := by
  simp only [fileAt, mkFile, natsToInts, readByte, List.map_cons, List.length_cons]
  congr 3; omega

/-- what a translated reader returns on `fileAt T bs` when the model's returns `x` on `bs`; `atFile_bind` hands `x` on
    behind `>>=`, so no case split on the readers' results is needed -/
def atFile (T : Int) {α β : Type} (g : α → β) (x : Except Err (α × List Nat)) : Except Err (β × PyFile) :=
  x >>= fun p => pure (g p.1, fileAt T p.2)

theorem atFile_bind (T : Int) {α β γ : Type} (g : α → β) (x : Except Err (α × List Nat))
    (k : β × PyFile → Except Err γ) : atFile T g x >>= k = x >>= fun p => k (g p.1, fileAt T p.2) := by
  cases x <;> rfl

theorem atFile_of_bind (T : Int) {α β γ : Type} (g : α → β) (x : Except Err γ) (f : γ → Except Err (α × List Nat)) :
    atFile T g (x >>= f) = x >>= fun a => atFile T g (f a) := by
  cases x <;> rfl

theorem src_read_vlq_loop_at (T : Int) : ∀ (bs : List Nat) (fuel acc : Nat), bs.length < fuel →
    Src.read_variable_int.loop1 fuel (fileAt T bs) (acc : Int) =
      readVlqAcc acc bs >>= fun p => pure (Sum.inl ((p.1 : Int), fileAt T p.2))
  | _, 0, _, h => by omega
  | [], f + 1, acc, _ => rfl
  | b :: rest, f + 1, acc, h => by
    rw [Src.read_variable_int.loop1, readVlqAcc]
    simp only [readByte_fileAt, ok_bind, if_true, vlq_step, natCast_lt_lit, ite_bind]
    exact ite_congr decide_eq_true_eq (fun _ => rfl) fun _ =>
      src_read_vlq_loop_at T rest f _ (Nat.lt_of_succ_lt_succ h)

theorem src_read_vlq_loop : ∀ (bs : List Nat) (fuel acc : Nat) (p : Int), bs.length < fuel →
    Src.read_variable_int.loop1 fuel (mkFile bs p) (acc : Int) =
      match readVlqAcc acc bs with
      | .ok (v, r) => .ok (Sum.inl ((v : Int), mkFile r (p + bs.length - r.length)))
      | .error e => .error e := by
  intro bs fuel acc p h
  rw [mkFile_eq_fileAt, src_read_vlq_loop_at _ bs fuel acc h]
  rcases readVlqAcc acc bs with _ | ⟨v, r⟩ <;> rfl

theorem src_read_variable_int_at (T : Int) (bs : List Nat) :
    Src.read_variable_int (fileAt T bs) = atFile T (fun v : Nat => (v : Int)) (readVlq bs) := by
  simp only [Src.read_variable_int, length_rest_fileAt]
  rw [← Int.natCast_zero, src_read_vlq_loop_at T bs (bs.length + 1) 0 (by omega), readVlq]
  cases readVlqAcc 0 bs <;> rfl

/-- `read_variable_int`, as translated from the source, is the model's `readVlq` on every byte list: value, the
    unread rest and the new file position, or `EOFError` when the input ends inside the quantity -/
theorem src_read_variable_int (bs : List Nat) (p : Int) :
    Src.read_variable_int (mkFile bs p) =
      match readVlq bs with
      | .ok (v, r) => .ok ((v : Int), mkFile r (p + bs.length - r.length))
      | .error e => .error e := by
  rw [mkFile_eq_fileAt, src_read_variable_int_at]
  cases readVlq bs <;> rfl

end Mido
