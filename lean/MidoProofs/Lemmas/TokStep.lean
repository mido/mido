import MidoProofs.Lemmas.Codec
import MidoModel.Tokenizer
/-! Equations of the tokenizer model by the class of the byte, and runs of data bytes. -/
namespace Mido
open List

theorem feed_cons (st : Tok) (b : Nat) (r : List Nat) : st.feed (b :: r) = (st.feedByte b).feed r := rfl
theorem feed_nil (st : Tok) : st.feed [] = st := rfl
theorem Tok.feed_append (st : Tok) (a b : List Nat) : (st.feed a).feed b = st.feed (a ++ b) :=
  foldl_append.symm

theorem Tok.feedByte_data (st : Tok) {b : Nat} (h : b < 128) : st.feedByte b = st.feedData b :=
  if_pos h
theorem Tok.feedByte_status (st : Tok) {b : Nat} (h : 128 ≤ b) : st.feedByte b = st.feedStatus b :=
  if_neg (Nat.not_lt.mpr h)

theorem Tok.feedData_idle (st : Tok) (b : Nat) (hs : st.status = 0) : st.feedData b = st := by
  simp [Tok.feedData, hs]

theorem Tok.feedData_push (st : Tok) (b : Nat) (hs : st.status ≠ 0)
    (hl : st.bytes.length + 1 ≠ st.len) : st.feedData b = { st with bytes := st.bytes ++ [b] } := by
  simp [Tok.feedData, hs, hl]

theorem Tok.feedData_close (st : Tok) (b : Nat) (hs : st.status ≠ 0)
    (hl : st.bytes.length + 1 = st.len) :
    st.feedData b =
      { st with bytes := st.bytes ++ [b], out := st.out ++ [st.bytes ++ [b]], status := 0 } := by
  simp [Tok.feedData, hs, hl]

theorem Tok.feedStatus_sysexStart (st : Tok) :
    st.feedStatus 0xF0 = { st with status := 0xF0, bytes := [0xF0], len := 0 } := rfl

theorem Tok.feedStatus_sysexEnd (st : Tok) : st.feedStatus 0xF7 =
    if st.status = 0xF0 then
      { st with out := st.out ++ [st.bytes ++ [0xF7]], bytes := st.bytes ++ [0xF7], status := 0 }
    else { st with status := 0 } := rfl

/-- a real-time byte cancels a pending fixed-length message, not a sysex -/
theorem Tok.feedStatus_rt (st : Tok) {s : Nat} (hs : 0xF8 ≤ s) : st.feedStatus s =
    { st with status := if st.status = 0xF0 then 0xF0 else 0,
              out := if definedStatus s then st.out ++ [[s]] else st.out } := by
  unfold Tok.feedStatus
  rw [if_neg (by omega), if_pos hs]
  cases st with
  | mk status bytes len out =>
    by_cases c : status = 0xF0 <;> by_cases d : definedStatus s = true <;> simp [c, d]

theorem Tok.feedStatus_fixed (st : Tok) {s n : Nat} (hl : specLen s = some n) (hs : s < 0xF8) :
    st.feedStatus s = if n = 1 then { st with out := st.out ++ [[s]], status := 0 }
      else { st with status := s, bytes := [s], len := n } := by
  obtain ⟨-, -, h0, h7⟩ := specLen_ge hl
  unfold Tok.feedStatus
  rw [if_neg h7, if_neg (by omega), if_neg h0, hl]
  split <;> simp_all

theorem Tok.feedStatus_undefined (st : Tok) {s : Nat} (hl : specLen s = none) (h0 : s ≠ 0xF0)
    (h7 : s ≠ 0xF7) (hs : s < 0xF8) : st.feedStatus s = st := by
  unfold Tok.feedStatus
  rw [if_neg h7, if_neg (by omega), if_neg h0, hl]

/-- the first disjunct (the collected bytes are past `len` already) is how the sysex, `len = 0`, comes in -/
theorem Tok.feed_data_open {d : List Nat} (hd : ∀ x ∈ d, x < 128) : ∀ st : Tok, st.status ≠ 0 →
    (st.len ≤ st.bytes.length ∨ st.bytes.length + d.length < st.len) →
    st.feed d = { st with bytes := st.bytes ++ d } := by
  induction d with
  | nil => intro st _ _; simp [feed_nil]
  | cons x r ih =>
    intro st hs hl
    obtain ⟨hx, hr⟩ := forall_mem_cons.mp hd
    rw [feed_cons, st.feedByte_data hx, st.feedData_push x hs (by simp at hl; omega),
      ih hr { st with bytes := st.bytes ++ [x] } hs (by simp at hl ⊢; omega)]
    simp

theorem Tok.feed_data_close {d : List Nat} (hd : ∀ x ∈ d, x < 128) (hne : d ≠ []) {st : Tok}
    (hs : st.status ≠ 0) (hl : st.bytes.length + d.length = st.len) :
    st.feed d = { st with bytes := st.bytes ++ d, out := st.out ++ [st.bytes ++ d], status := 0 } := by
  obtain ⟨r, x, rfl⟩ := (eq_nil_or_concat d).resolve_left hne
  rw [concat_eq_append] at hd hl ⊢
  obtain ⟨hr, hx⟩ := forall_mem_append.mp hd
  rw [length_append, length_singleton] at hl
  rw [← Tok.feed_append, Tok.feed_data_open hr st hs (.inr (by omega)), feed_cons, feed_nil,
    Tok.feedByte_data _ (hx x mem_cons_self), Tok.feedData_close _ x (by exact hs) (by simp; omega)]
  simp

end Mido
