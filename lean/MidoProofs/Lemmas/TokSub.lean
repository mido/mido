import MidoProofs.Lemmas.TokInv
/-! What one byte does to the token list, seen from outside, and the invariant relating a tokenizer state to its input. -/
namespace Mido
open List

/-! Vocabulary: of the consumed input `C`, `NR C` are the bytes that are not real-time and `RT C` the tokens of the defined
    real-time bytes; of the tokens emitted, `nonRtFlat` are the bytes of those that are not real-time, `rtToks` the others. -/

def isRtByte (b : Nat) : Bool := decide (0xF8 ≤ b)
/-- 0xF9 and 0xFD are not in `SPEC_BY_STATUS`: they are dropped -/
def definedRt (b : Nat) : Bool := decide (0xF8 ≤ b) && definedStatus b
def isRtTok (t : List Nat) : Bool := match t with | [s] => decide (0xF8 ≤ s) | _ => false

def Tok.pending (st : Tok) : List Nat := if st.status ≠ 0 then st.bytes else []
def nonRtFlat (out : List (List Nat)) : List Nat := (out.filter (fun t => !isRtTok t)).flatten
def rtToks (out : List (List Nat)) : List (List Nat) := out.filter isRtTok
def NR (C : List Nat) : List Nat := C.filter (fun b => !isRtByte b)
def RT (C : List Nat) : List (List Nat) := (C.filter definedRt).map (fun b => [b])

theorem nonRtFlat_append (a b : List (List Nat)) : nonRtFlat (a ++ b) = nonRtFlat a ++ nonRtFlat b := by
  simp [nonRtFlat]
theorem rtToks_append (a b : List (List Nat)) : rtToks (a ++ b) = rtToks a ++ rtToks b := by
  simp [rtToks]
theorem NR_append (a b : List Nat) : NR (a ++ b) = NR a ++ NR b := by simp [NR]
theorem RT_append (a b : List Nat) : RT (a ++ b) = RT a ++ RT b := by simp [RT]

theorem definedRt_lt {b : Nat} (h : b < 0xF8) : definedRt b = false := by
  simp [definedRt]; omega

theorem isRtTok_long {t : List Nat} (h : 2 ≤ t.length) : isRtTok t = false := by
  match t, h with
  | _ :: _ :: _, _ => rfl

theorem isRtTok_snoc (l : List Nat) {b : Nat} (h : b < 0xF8) : isRtTok (l ++ [b]) = false := by
  cases l with
  | nil => simp [isRtTok]; omega
  | cons x r => exact isRtTok_long (by simp)

theorem nonRtFlat_single {t : List Nat} (h : isRtTok t = false) : nonRtFlat [t] = t := by
  simp [nonRtFlat, h]
theorem rtToks_single {t : List Nat} (h : isRtTok t = false) : rtToks [t] = [] := by
  simp [rtToks, h]

theorem Tok.pending_idle (b : List Nat) (l : Nat) (o : List (List Nat)) :
    Tok.pending ⟨0, b, l, o⟩ = [] := rfl
theorem Tok.pending_busy {st : Tok} (h : st.status ≠ 0) : st.pending = st.bytes := if_pos h

/-- the byte completes the tokens `e`: the real-time ones are the byte itself, if defined; the others and what is pending
    afterwards come in order from what was pending and the byte -/
theorem Tok.feedByte_trace (st : Tok) (b : Nat) :
    ∃ e, (st.feedByte b).out = st.out ++ e ∧ rtToks e = RT [b] ∧
      nonRtFlat e ++ (st.feedByte b).pending <+ st.pending ++ NR [b] := by
  by_cases hrt : 0xF8 ≤ b
  · have hnr : NR [b] = [] := by simp [NR, isRtByte, hrt]
    have hp : ∀ o, Tok.pending ⟨if st.status = 0xF0 then 0xF0 else 0, st.bytes, st.len, o⟩ <+
        st.pending := by
      intro o
      by_cases c : st.status = 0xF0
      · rw [Tok.pending_busy (by simp [c]), Tok.pending_busy (by rw [c]; decide)]
        exact Sublist.refl _
      · rw [if_neg c]; exact nil_sublist _
    rw [st.feedByte_status (by omega), st.feedStatus_rt hrt, hnr, append_nil]
    by_cases hd : definedStatus b = true
    · exact ⟨[[b]], by simp [hd], by simp [rtToks, RT, isRtTok, definedRt, hrt, hd],
        by simpa [nonRtFlat, isRtTok, hrt] using hp _⟩
    · exact ⟨[], by simp [hd], by simp [rtToks, RT, definedRt, hd], by simpa [nonRtFlat] using hp _⟩
  · have hlt : b < 0xF8 := by omega
    have hnr : NR [b] = [b] := by simp [NR, isRtByte, hrt]
    have hnd : RT [b] = [] := by simp [RT, definedRt_lt hlt]
    rw [hnr, hnd]
    -- a byte below 0xF8 leaves the state untouched, completes the pending token, is a token itself, or is pending alone
    have quiet : ∀ st' : Tok, st'.out = st.out → st'.pending <+ st.pending ++ [b] →
        ∃ e, st'.out = st.out ++ e ∧ rtToks e = [] ∧ nonRtFlat e ++ st'.pending <+ st.pending ++ [b] :=
      fun _ ho hs => ⟨[], ho.trans (append_nil _).symm, rfl, hs⟩
    have emit : ∀ t {bytes len}, isRtTok t = false → t <+ st.pending ++ [b] →
        ∃ e, st.out ++ [t] = st.out ++ e ∧ rtToks e = [] ∧
          nonRtFlat e ++ Tok.pending ⟨0, bytes, len, st.out ++ [t]⟩ <+ st.pending ++ [b] := fun t _ _ ht hs =>
      ⟨[t], rfl, rtToks_single ht, by rw [nonRtFlat_single ht, Tok.pending_idle, append_nil]; exact hs⟩
    by_cases hd : b < 128
    · rw [st.feedByte_data hd]
      by_cases hs : st.status = 0
      · rw [st.feedData_idle b hs]; exact quiet st rfl (sublist_append_left _ _)
      by_cases hl : st.bytes.length + 1 = st.len
      · rw [st.feedData_close b hs hl, ← Tok.pending_busy hs]
        exact emit _ (isRtTok_snoc _ hlt) (Sublist.refl _)
      · rw [st.feedData_push b hs hl]
        exact quiet _ rfl (by rw [Tok.pending_busy hs, Tok.pending_busy (by exact hs)]; exact Sublist.refl _)
    rw [st.feedByte_status (by omega)]
    fun_cases Tok.feedStatus st b
    case case1 h7 hs =>
      subst h7; rw [← Tok.pending_busy (st := st) (by rw [hs]; decide)]
      exact emit _ (isRtTok_snoc _ hlt) (Sublist.refl _)
    case case2 => exact quiet _ rfl (nil_sublist _)
    case case3 | case4 => omega
    case case5 | case7 =>
      exact quiet _ rfl (by rw [Tok.pending_busy (show b ≠ 0 by omega)]; exact sublist_append_right _ _)
    case case6 => exact emit [b] (isRtTok_snoc [] hlt) (sublist_append_right _ _)
    case case8 => exact quiet st rfl (sublist_append_left _ _)

structure FullInv (st : Tok) (C : List Nat) : Prop where
  tok : TokInv st
  sub : nonRtFlat st.out ++ st.pending <+ NR C
  rt : rtToks st.out = RT C

theorem FullInv.init : FullInv {} [] := ⟨TokInv.init, by simp [nonRtFlat, Tok.pending, NR], rfl⟩

theorem FullInv.step {st : Tok} {C : List Nat} (h : FullInv st C) (b : Nat) :
    FullInv (st.feedByte b) (C ++ [b]) := by
  obtain ⟨e, ho, hr, hs⟩ := st.feedByte_trace b
  refine ⟨h.tok.step b, ?_, by rw [ho, rtToks_append, hr, RT_append, h.rt]⟩
  rw [ho, nonRtFlat_append, NR_append, append_assoc]
  refine (hs.append_left _).trans ?_
  rw [← append_assoc]
  exact h.sub.append_right _

theorem FullInv.feedByte {st : Tok} {C : List Nat} (h : FullInv st C) (b : Nat) (hb : b < 256) :
    FullInv (st.feedByte b) (C ++ [b]) := h.step b

theorem FullInv.feed {st : Tok} {C : List Nat} (h : FullInv st C) (bs : List Nat) :
    FullInv (st.feed bs) (C ++ bs) := by
  induction bs generalizing st C with
  | nil => simpa [Tok.feed] using h
  | cons b r ih => simpa [Tok.feed] using ih (h.step b)

end Mido
