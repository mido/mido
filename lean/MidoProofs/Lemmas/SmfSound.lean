import MidoProofs.Lemmas.SmfRt
import MidoProofs.Lemmas.SmfLen
import MidoProofs.Lemmas.MetaRt
import MidoProofs.Lemmas.Codec
import MidoProofs.Props.C09
import MidoProofs.Props.C02
import MidoProofs.Props.C17
/-! Reader soundness: every event `load` returns from bytes, `clip` on or off, is sound (`SoundEv`), and a sound event that
    is no real-time message can be stored again.  First the meta decoder, then the readers. -/
namespace Mido
open List

def Bytes (l : List Nat) : Prop := ∀ b ∈ l, b < 256

theorem Bytes.drop {l : List Nat} (h : Bytes l) (n : Nat) : Bytes (l.drop n) := fun b hb => h b (mem_of_mem_drop hb)
theorem Bytes.take {l : List Nat} (h : Bytes l) (n : Nat) : Bytes (l.take n) := fun b hb => h b (mem_of_mem_take hb)
theorem Bytes.tail {a : Nat} {l : List Nat} (h : Bytes (a :: l)) : Bytes l := fun b hb => h b (mem_cons_of_mem _ hb)
theorem Bytes.suffix {l s : List Nat} (h : Bytes l) (hs : s <:+ l) : Bytes s := fun b hb => h b (hs.mem hb)

theorem checkByteItems_bytes (d : List Nat) (h : Bytes d) : checkByteItems (d.map natItem) = .ok () := by
  induction d with
  | nil => rfl
  | cons a r ih =>
    have ha : (0 : Int) ≤ Int.ofNat a ∧ Int.ofNat a ≤ 255 :=
      ⟨Int.natCast_nonneg a, Int.ofNat_le.mpr (Nat.le_of_lt_succ (h a mem_cons_self))⟩
    rw [map_cons, checkByteItems, natItem, checkByteItem, if_pos ha]
    exact ih h.tail

theorem keyDecode_encodes {k : Int} {mode : Nat} {s : List Nat} (h : keyDecode k mode = some s) :
    (keyEncode s).isSome = true := by
  obtain ⟨e, hf, rfl⟩ := Option.map_eq_some_iff.mp h
  rw [(key_table_roundtrip e (mem_of_find?_eq_some hf)).1]; rfl

theorem rate_entries : ∀ fr ∈ frameRates,
    let v := if fr.2 % 100 = 0 then PyVal.nat (fr.2 / 100) else PyVal.flt (Int.ofNat fr.2)
    (frameRateCode v).isSome = true ∧
    (v == PyVal.int 24 || v == PyVal.int 25 || v == PyVal.flt 2997 || v == PyVal.int 30) = true := by
  decide +kernel

theorem tempo_bound (a b c : Nat) (ha : a < 256) (hb : b < 256) (hc : c < 256) :
    (a <<< 16) ||| (b <<< 8) ||| c ≤ 0xffffff := by
  rw [be24 a b c hb hc]
  omega

theorem seq_bound (a b : Nat) (ha : a < 256) (hb : b < 256) : (a <<< 8) ||| b ≤ 0xffff := by
  rw [be16 a b hb]
  omega

/-- what a decoded meta message satisfies: the meta clause of `StorableEv` -/
def SoundMeta (cs : Charset) (m : MetaMsg) : Prop :=
  m.check = .ok () ∧ m.normal = true ∧ ∀ p, metaPayload cs m = .ok p → p.length ≤ maxMessageLength

theorem SoundMeta.one {cs : Charset} {t : MetaType} {v : PyVal} (hl : t.attrs.length = 1)
    (hc : metaCheckAttr t 0 v = .ok ()) (hn : MetaMsg.normal ⟨t, [v]⟩ = true)
    (hp : ∀ p, metaPayload cs ⟨t, [v]⟩ = .ok p → p.length ≤ maxMessageLength) : SoundMeta cs ⟨t, [v]⟩ :=
  ⟨(check_ok _ _).mpr ⟨hl.symm, checkAttrsFrom_cons_ok hc rfl⟩, hn, hp⟩

/-- **Decoder soundness** (of `metaDecodePayload`): every meta message the reader builds from bytes passes its own
    checks, is in normal form, and encodes to a payload within the reader's limit. -/
theorem decode_sound (cs : Charset) (t : MetaType) (data : List Nat) (hb : Bytes data)
    (hlen : data.length ≤ maxMessageLength) (vs : List PyVal) (h : metaDecodePayload cs t data = .ok vs) :
    SoundMeta cs ⟨t, vs⟩ := by
  have short : ∀ {l p : List Nat}, Except.ok (ε := Err) l = .ok p → l.length ≤ 5 → p.length ≤ maxMessageLength :=
    fun h hl => by cases h; exact Nat.le_trans hl (by decide)
  have ck {t : MetaType} (i : Nat) (hi : Int) (x : Nat) (hx : (x : Int) ≤ hi)
      (hck : ∀ v, metaCheckAttr t i v = checkInt v 0 hi) : metaCheckAttr t i (PyVal.nat x) = .ok () := by
    rw [hck, checkInt_of_nat x hi hx]
  revert h
  fun_cases metaDecodePayload cs t data <;> intro h
  case case27 => -- the text types
    obtain ⟨s, hd, rfl⟩ := map_eq_ok.mp h
    obtain ⟨ht, hl, hc, hn⟩ : t.isText = true ∧ t.attrs.length = 1 ∧ metaCheckAttr t 0 (.str s) = .ok () ∧
        MetaMsg.normal ⟨t, [.str s]⟩ = true := by
      cases t with
      | text | copyright | track_name | instrument_name | lyrics | marker | cue_marker | device_name =>
        exact ⟨rfl, rfl, rfl, rfl⟩
      | _ => contradiction
    refine .one hl hc hn fun p hp => ?_
    rw [C17_uses_charset cs t ht, decodeText_encodeText (fun _ => hb) hd] at hp
    cases hp; exact hlen
  -- the other cases, numbered in the order of `metaDecodePayload`: the failing ones go, the rest give `vs`
  all_goals cases h
  case case1 | case6 | case8 => -- sequence_number and midi_port without data, end_of_track
    exact ⟨by decide, by decide, fun p hp => short hp (by decide)⟩
  case case3 a b _ => -- sequence_number
    simp only [Bytes, forall_mem_cons] at hb
    exact .one rfl (checkInt_of_nat _ 0xffff (Int.ofNat_le.mpr (seq_bound a b hb.1 hb.2.1))) rfl fun p hp => short hp (by simp)
  case case5 a _ | case7 a _ => -- channel_prefix, midi_port
    have := hb a (by simp)
    exact .one rfl (checkInt_of_nat a 255 (by omega)) rfl fun p hp => short hp (by simp)
  case case9 a b c _ => -- set_tempo
    simp only [Bytes, forall_mem_cons] at hb
    exact .one rfl (checkInt_of_nat _ 0xffffff (Int.ofNat_le.mpr (tempo_bound a b c hb.1 hb.2.1 hb.2.2.1))) rfl
      fun p hp => short hp (by simp)
  case case20 a fr hf rate b hb59 c hc59 d e _ he99 => -- smpte_offset
    have hfr := rate_entries fr (mem_of_find?_eq_some hf)
    simp only [Bytes, forall_mem_cons] at hb
    have hh : a &&& 0x1f ≤ 31 := Nat.and_le_right
    refine ⟨?_, ?_, ?_⟩
    · have c0 : metaCheckAttr .smpte_offset 0
          (if fr.2 % 100 = 0 then PyVal.nat (fr.2 / 100) else PyVal.flt (Int.ofNat fr.2)) = .ok () := by
        simp only [metaCheckAttr, if_true, hfr.1]
      refine (check_ok _ _).mpr ⟨rfl, ?_⟩
      exact (checkAttrsFrom_cons_ok c0
        (checkAttrsFrom_cons_ok (ck 1 255 (a &&& 0x1f) (by omega) fun _ => rfl)
        (checkAttrsFrom_cons_ok (ck 2 59 b (by omega) fun _ => rfl)
        (checkAttrsFrom_cons_ok (ck 3 59 c (by omega) fun _ => rfl)
        (checkAttrsFrom_cons_ok (ck 4 255 d (by omega) fun _ => rfl)
        (checkAttrsFrom_cons_ok (ck 5 99 e (by omega) fun _ => rfl) rfl))))))
    · have hlt : (Int.ofNat (a &&& 0x1f)) < 32 := by simp only [Int.ofNat_eq_natCast]; omega
      simp only [MetaMsg.normal, PyVal.nat, Bool.and_eq_true, decide_eq_true_eq]
      exact ⟨hfr.2, hlt⟩
    · intro p hp
      simp only [metaPayload] at hp
      split at hp
      · exact short hp (by simp)
      · cases hp
  case case21 a b c d _ => -- time_signature
    simp only [Bytes, forall_mem_cons] at hb
    have c1 : metaCheckAttr .time_signature 1 (PyVal.nat (2 ^ b)) = .ok () := by
      simpa [PyVal.nat] using C09_accepts_denominator b (by omega)
    refine ⟨(check_ok _ _).mpr ⟨rfl, ?_⟩, rfl, fun p hp => short hp (by simp)⟩
    exact checkAttrsFrom_cons_ok (ck 0 255 a (by omega) fun _ => rfl) (checkAttrsFrom_cons_ok c1
      (checkAttrsFrom_cons_ok (ck 2 255 c (by omega) fun _ => rfl)
      (checkAttrsFrom_cons_ok (ck 3 255 d (by omega) fun _ => rfl) rfl)))
  case case23 a b _ k hk => -- key_signature
    have henc := keyDecode_encodes hk
    refine .one rfl (by simp [metaCheckAttr, hashable, henc]) rfl fun p hp => ?_
    obtain ⟨km, he⟩ := Option.isSome_iff_exists.mp henc
    simp only [metaPayload, he] at hp
    exact short hp (by simp)
  case case26 => -- sequencer_specific
    refine .one rfl (checkByteItems_bytes data hb) rfl fun p hp => ?_
    cases hp; simpa [itemsOf] using hlen

/-- what every loaded event satisfies: as `StorableEv`, except for messages — no real-time condition, and the
    sysex bound without the closing F7 -/
def SoundEv (cs : Charset) : FEv → Prop
  | .msg m => m.Valid ∧ (∀ d, m = .sysex d → d.length ≤ maxMessageLength)
  | .metaEv mm => SoundMeta cs mm
  | .unknownMeta tb data => MetaType.ofByte tb = none ∧ tb < 256 ∧ data.all (· < 256) = true ∧
      data.length ≤ maxMessageLength

theorem buildMeta_sound (cs : Charset) {ty : Nat} (hty : ty < 256) {data : List Nat} (hbd : Bytes data)
    (hlen : data.length ≤ maxMessageLength) {me : MetaEvent} : buildMeta cs ty data = .ok me →
    SoundEv cs (match me with | .known m => .metaEv m | .unknown tb d => .unknownMeta tb d) := by
  fun_cases buildMeta cs ty data <;> intro h
  · cases h
    exact ⟨‹_›, hty, all_eq_true.mpr fun x hx => by simpa using hbd x hx, hlen⟩
  · obtain ⟨vs, hdp, rfl⟩ := map_eq_ok.mp h
    exact decode_sound cs _ data hbd hlen vs hdp

theorem readKind_sound (cs : Charset) (clip : Bool) {st : Nat} {peek bs : List Nat} (hb : Bytes bs) {ev : FEv}
    {rest : List Nat} (h : readKind cs clip st peek bs = .ok (ev, rest)) : SoundEv cs ev := by
  revert h
  fun_cases readKind cs clip st peek bs <;> intro h
  · obtain ⟨ty, r0, n, r1, me, rfl, hv, -, hlen, hbm, rfl⟩ := readMeta_ok h
    exact buildMeta_sound cs (hb ty mem_cons_self) ((hb.tail.suffix (readVlq_suffix hv).1).take n) hlen hbm
  · obtain ⟨n, r1, d, -, -, rfl, hall, hlen⟩ := readSysex_ok h
    exact ⟨hall, fun d' hd => by cases hd; exact hlen⟩
  · rename_i h2
    obtain ⟨n, data, m, -, hm, rfl⟩ := readChannelish_ok h
    obtain ⟨hv, he⟩ := decodeNats_sound hm
    refine ⟨hv, ?_⟩
    -- a sysex message would have the status byte F0, which goes to `readSysex`
    rintro d rfl
    simp only [encode, cons_append, nil_append, cons.injEq] at he
    exact absurd (.inl he.1.symm) h2

theorem readEvent_sound (cs : Charset) (clip : Bool) {last : Option Nat} {bs : List Nat} (hb : Bytes bs)
    {e : LEvent} {rest : List Nat} {last' : Option Nat}
    (h : readEvent cs clip last bs = .ok (e, rest, last')) : SoundEv cs e.ev := by
  obtain ⟨sb, r2, st, peek, hv, hk⟩ := readEvent_kind h
  exact readKind_sound cs clip (hb.suffix (readVlq_suffix hv).1).tail hk

theorem readEvents_sound (cs : Charset) (clip : Bool) {size fuel consumed : Nat} {last : Option Nat}
    {bs : List Nat} {evs : List LEvent} {rest : List Nat} (hb : Bytes bs) :
    readEvents cs clip size fuel consumed last bs = .ok (evs, rest) → (∀ e ∈ evs, SoundEv cs e.ev) ∧ Bytes rest := by
  fun_induction readEvents cs clip size fuel consumed last bs generalizing evs rest <;> intro h
  · cases h
  · cases h
    exact ⟨fun e he => (nomatch he), hb⟩
  · rename_i ih
    obtain ⟨⟨e, r, l⟩, he, h⟩ := bind_eq_ok.mp h
    obtain ⟨⟨es, r'⟩, hr, h⟩ := bind_eq_ok.mp h
    cases h
    exact (ih r l (hb.suffix (readEvent_suffix he).1) hr).imp_left fun hs =>
      forall_mem_cons.mpr ⟨readEvent_sound cs clip hb he, hs⟩

theorem readTrack_sound (cs : Charset) (clip : Bool) {bs : List Nat} (hb : Bytes bs) {t : List LEvent} {rest : List Nat}
    (h : readTrack cs clip bs = .ok (t, rest)) : (∀ e ∈ t, SoundEv cs e.ev) ∧ Bytes rest :=
  readEvents_sound cs clip (hb.drop 8) (guard_eq_ok (guard_eq_ok h).2).2

theorem readTracks_sound (cs : Charset) (clip : Bool) {n : Nat} {bs : List Nat} {ts : List (List LEvent)}
    (hb : Bytes bs) : readTracks cs clip n bs = .ok ts → ∀ t ∈ ts, ∀ e ∈ t, SoundEv cs e.ev := by
  fun_induction readTracks cs clip n bs generalizing ts <;> intro h
  · cases h; exact fun _ ht => (nomatch ht)
  · rename_i ih
    obtain ⟨⟨t, rest⟩, ht, h⟩ := bind_eq_ok.mp h
    obtain ⟨ts', hr, h⟩ := bind_eq_ok.mp h
    cases h
    obtain ⟨hts, hbr⟩ := readTrack_sound cs clip hb ht
    exact forall_mem_cons.mpr ⟨hts, ih rest hbr hr⟩

theorem readFile_sound_clip (cs : Charset) (clip : Bool) {bs : List Nat} (hb : Bytes bs) {L : LFile}
    (h : readFile cs clip bs = .ok L) : ∀ t ∈ L.tracks, ∀ e ∈ t, SoundEv cs e.ev := by
  revert h
  fun_cases readFile cs clip bs <;> intro h
  case case3 =>
    obtain ⟨ts, hr, h⟩ := bind_eq_ok.mp h
    cases h
    exact readTracks_sound cs clip ((hb.drop 8).drop _) hr
  all_goals cases h

/-- **Reader soundness**: every event of every track of a loaded file is sound -/
theorem readFile_sound (cs : Charset) (bs : List Nat) (hb : Bytes bs) (L : LFile)
    (h : readFile cs false bs = .ok L) : ∀ t ∈ L.tracks, ∀ e ∈ t, SoundEv cs e.ev :=
  readFile_sound_clip cs false hb h

theorem msg_rt_iff (m : Msg) (hv : m.Valid) : (FEv.msg m).isRealtime = m.isRealtime := by
  -- a status byte from 0xF8 on has no data bytes (`specLen_rt`), so only the one-byte messages can be real-time
  have lt (hl : 2 ≤ (encode m).length) : m.isRealtime = false := by
    by_cases hs : ∃ d, m = .sysex d
    · obtain ⟨d, rfl⟩ := hs; rfl
    · obtain ⟨d, he, -, hsl⟩ := encode_fixed m hv (not_exists.mp hs)
      refine decide_eq_false fun hr => ?_
      have := specLen_rt hsl hr
      rw [he, List.length_cons] at hl
      omega
  cases m with
  | sys1 k => cases k <;> rfl
  | _ => exact (lt (by simp [encode])).symm

theorem sound_storable (cs : Charset) (ev : FEv) (hs : SoundEv cs ev) (hnr : ev.isRealtime = false)
    (hsx : ∀ d, ev = .msg (.sysex d) → d.length + 1 ≤ maxMessageLength) : StorableEv cs ev := by
  cases ev with
  | msg m => exact ⟨hs.1, msg_rt_iff m hs.1 ▸ hnr, fun d hd => hsx d (hd ▸ rfl)⟩
  | metaEv _ | unknownMeta _ _ => exact hs

end Mido
