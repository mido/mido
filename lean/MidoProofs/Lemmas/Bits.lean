import MidoModel.Basic
/-! Bit operators on natural numbers as arithmetic (`&&& 127` is `% 128`, `<<< 7` is `* 128`, `|||` of disjoint fields is `+`),
    the fields of the codec's packed bytes, big-endian numbers, and Python's `|` on a negative int (`pitch_lor`). -/
namespace Mido

theorem and127 (x : Nat) : x &&& 0x7f = x % 128 := Nat.and_two_pow_sub_one_eq_mod x 7
theorem and15 (x : Nat) : x &&& 15 = x % 16 := Nat.and_two_pow_sub_one_eq_mod x 4
theorem and255 (x : Nat) : x &&& 0xff = x % 256 := Nat.and_two_pow_sub_one_eq_mod x 8
theorem shr7 (x : Nat) : x >>> 7 = x / 128 := by simp [Nat.shiftRight_eq_div_pow]
theorem shr4 (x : Nat) : x >>> 4 = x / 16 := by simp [Nat.shiftRight_eq_div_pow]
theorem shr8 (x : Nat) : x >>> 8 = x / 256 := by simp [Nat.shiftRight_eq_div_pow]
theorem shr16 (x : Nat) : x >>> 16 = x / 65536 := by simp [Nat.shiftRight_eq_div_pow]
theorem shl7 (x : Nat) : x <<< 7 = x * 128 := by simp [Nat.shiftLeft_eq]
theorem shl4 (x : Nat) : x <<< 4 = x * 16 := by simp [Nat.shiftLeft_eq]
theorem shl8 (x : Nat) : x <<< 8 = x * 256 := by simp [Nat.shiftLeft_eq]

theorem or_disjoint (a b k : Nat) (h : b < 2 ^ k) : (a * 2 ^ k) ||| b = a * 2 ^ k + b := by
  rw [Nat.mul_comm]; exact (Nat.two_pow_add_eq_or_of_lt h a).symm

theorem or16 (a b : Nat) (h : b < 16) : (a * 16) ||| b = a * 16 + b := or_disjoint a b 4 h
theorem or128' (a b : Nat) (h : b < 128) : b ||| (a * 128) = a * 128 + b := by
  rw [Nat.or_comm]; exact or_disjoint a b 7 h

theorem join14 {lo hi : Nat} (hlo : lo ≤ 127) (hhi : hi ≤ 127) :
    lo ||| hi <<< 7 ≤ 16383 ∧ (lo ||| hi <<< 7) &&& 0x7f = lo ∧ (lo ||| hi <<< 7) >>> 7 = hi := by
  rw [shl7, or128' hi lo (by omega), and127, shr7]; omega

theorem split14 (p : Nat) (hp : p ≤ 16383) :
    p &&& 0x7f ≤ 127 ∧ p >>> 7 ≤ 127 ∧ (p &&& 0x7f) ||| (p >>> 7) <<< 7 = p := by
  rw [and127, shr7, shl7, or128' _ _ (Nat.mod_lt p (by decide))]; omega

theorem join7 {ft fv : Nat} (hft : ft ≤ 7) (hfv : fv ≤ 15) :
    ft <<< 4 ||| fv ≤ 127 ∧ (ft <<< 4 ||| fv) >>> 4 = ft ∧ (ft <<< 4 ||| fv) &&& 15 = fv := by
  rw [shl4, or16 ft fv (by omega), shr4, and15]; omega

theorem split7 (d : Nat) (hd : d ≤ 127) :
    d >>> 4 ≤ 7 ∧ d &&& 15 ≤ 15 ∧ (d >>> 4) <<< 4 ||| (d &&& 15) = d := by
  rw [shr4, and15, shl4, or16 _ _ (Nat.mod_lt d (by decide))]; omega

/-- `~x & ~y = ~(x | y)` on `n`-bit complements: why `pyLor` on a negative operand is `ldiff`. -/
theorem ldiff_compl (n x y : Nat) (hx : x < 2 ^ n) (hy : y < 2 ^ n) :
    ldiff (2 ^ n - (x + 1)) y = 2 ^ n - ((x ||| y) + 1) := by
  apply Nat.eq_of_testBit_eq
  intro i
  rw [ldiff, Nat.testBit_bitwise (by rfl), Nat.testBit_two_pow_sub_succ hx,
    Nat.testBit_two_pow_sub_succ (Nat.or_lt_two_pow hx hy), Nat.testBit_or]
  cases decide (i < n) <;> cases x.testBit i <;> cases y.testBit i <;> rfl

theorem ldiff_128 (x : Nat) (h : x < 256) : ldiff x 128 = x % 128 := by
  apply Nat.eq_of_testBit_eq
  intro i
  rw [ldiff, Nat.testBit_bitwise rfl, show (128 : Nat) = 2 ^ 7 from rfl, Nat.testBit_two_pow,
    Nat.testBit_mod_two_pow]
  by_cases h7 : i < 7
  · have : ¬ 7 = i := by omega
    simp [h7, this]
  · by_cases h8 : i = 7
    · simp [h8]
    · have : x.testBit i = false :=
        Nat.testBit_lt_two_pow (Nat.lt_of_lt_of_le h (Nat.pow_le_pow_right (n := 2) (by decide) (by omega : 8 ≤ i)))
      simp [this]

/-- Python's `d0 | ((d1 << 7) - 8192)` on data bytes (the one use of `|` on a negative int:
    the right operand is negative for `d1 < 64`). -/
theorem pitch_lor (d0 d1 : Nat) (h0 : d0 < 128) :
    pyLor (d0 : Int) (((d1 : Int) <<< 7) + (-8192)) = (d0 : Int) + 128 * (d1 : Int) - 8192 := by
  rw [Int.shiftLeft_eq]
  by_cases h : 64 ≤ d1
  · have e : (d1 : Int) * 2 ^ 7 + (-8192) = Int.ofNat ((d1 - 64) * 2 ^ 7) := by
      simp only [Int.ofNat_eq_natCast]; omega
    rw [e]
    show Int.ofNat (d0 ||| (d1 - 64) * 2 ^ 7) = _
    rw [Nat.or_comm, or_disjoint _ _ 7 h0]
    simp only [Int.ofNat_eq_natCast]; omega
  · have e : (d1 : Int) * 2 ^ 7 + (-8192) = Int.negSucc (2 ^ 13 - (d1 * 2 ^ 7 + 1)) := by omega
    rw [e]
    show Int.negSucc (ldiff (2 ^ 13 - (d1 * 2 ^ 7 + 1)) d0) = _
    rw [ldiff_compl 13 _ _ (by omega) (by omega), or_disjoint _ _ 7 h0]
    omega

theorem be16 (a b : Nat) (hb : b < 256) : a <<< 8 ||| b = a * 256 + b := by
  rw [shl8]; exact or_disjoint a b 8 hb

theorem be24 (a b c : Nat) (hb : b < 256) (hc : c < 256) : a <<< 16 ||| b <<< 8 ||| c = a * 65536 + b * 256 + c := by
  rw [show 16 = 8 + 8 from rfl, Nat.shiftLeft_add, ← Nat.shiftLeft_or_distrib, be16 a b hb, be16 _ c hc]; omega

end Mido
