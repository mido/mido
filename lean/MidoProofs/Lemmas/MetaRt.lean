import MidoModel.Meta
import MidoProofs.Lemmas.Bits
import MidoProofs.Lemmas.Except
/-! What a passed meta check says about an attribute, and the payload arithmetic per meta type (C09). -/
namespace Mido

theorem checkAttrsFrom_cons (t : MetaType) (i : Nat) (v : PyVal) (r : List PyVal) :
    checkAttrsFrom t i (v :: r) = .ok () ↔ metaCheckAttr t i v = .ok () ∧ checkAttrsFrom t (i + 1) r = .ok () :=
  bind_ok

theorem checkAttrsFrom_cons_ok {t : MetaType} {i : Nat} {v : PyVal} {r : List PyVal}
    (hv : metaCheckAttr t i v = .ok ()) (hr : checkAttrsFrom t (i + 1) r = .ok ()) :
    checkAttrsFrom t i (v :: r) = .ok () :=
  (checkAttrsFrom_cons t i v r).mpr ⟨hv, hr⟩

theorem check_ok (t : MetaType) (vals : List PyVal) :
    (⟨t, vals⟩ : MetaMsg).check = .ok () ↔ vals.length = t.attrs.length ∧ checkAttrsFrom t 0 vals = .ok () := by
  simp only [MetaMsg.check]; split <;> simp_all

theorem bytes_cons {b : Nat} {l : List Nat} (hb : b < 256) (hl : ∀ x ∈ l, x < 256) : ∀ x ∈ b :: l, x < 256 :=
  List.forall_mem_cons.mpr ⟨hb, hl⟩

theorem check_one {t : MetaType} {vals : List PyVal} (hlen : vals.length = 1) (hc : checkAttrsFrom t 0 vals = .ok ()) :
    ∃ v, vals = [v] ∧ metaCheckAttr t 0 v = .ok () := by
  obtain ⟨v, rfl⟩ := List.length_eq_one_iff.mp hlen
  exact ⟨v, rfl, ((checkAttrsFrom_cons ..).mp hc).1⟩

theorem checkInt_ok {v : PyVal} {lo hi : Int} (h : checkInt v lo hi = .ok ()) :
    ∃ n, v = .int n ∧ lo ≤ n ∧ n ≤ hi := by
  revert h
  fun_cases checkInt v lo hi <;> intro h <;> cases h
  exact ⟨_, rfl, ‹_›⟩

theorem checkInt_nat {v : PyVal} {hi : Int} (h : checkInt v 0 hi = .ok ()) :
    PyVal.nat (natOf v) = v ∧ (natOf v : Int) ≤ hi := by
  obtain ⟨n, rfl, h1, h2⟩ := checkInt_ok h
  simp only [natOf, intOf, PyVal.nat, Int.ofNat_eq_natCast, Int.toNat_of_nonneg h1]
  exact ⟨trivial, h2⟩

theorem checkInt_of_nat (a : Nat) (hi : Int) (h : (a : Int) ≤ hi) :
    checkInt (PyVal.nat a) 0 hi = .ok () :=
  if_pos ⟨Int.natCast_nonneg a, h⟩

theorem checkStr_ok {v : PyVal} (h : checkStr v = .ok ()) : ∃ s, v = .str s := by
  cases v with
  | str s => exact ⟨s, rfl⟩
  | _ => cases h

theorem frameRate_ok {v : PyVal} (h : metaCheckAttr .smpte_offset 0 v = .ok ()) : ∃ c, frameRateCode v = some c := by
  simp only [metaCheckAttr, if_true] at h
  split at h
  · exact Option.isSome_iff_exists.mp ‹_›
  · cases h

theorem key_ok {v : PyVal} (h : metaCheckAttr .key_signature 0 v = .ok ()) :
    ∃ s km, v = .str s ∧ keyEncode s = some km := by
  simp only [metaCheckAttr] at h
  repeat' split at h
  all_goals cases h
  exact ⟨_, _, rfl, (Option.isSome_iff_exists.mp ‹_›).choose_spec⟩

theorem log2_eq_log2Nat (n : Nat) : Nat.log2 n = log2Nat n := by
  fun_induction log2Nat n with
  | case1 => rfl
  | case2 => rfl
  | case3 k ih => rw [Nat.log2_def, if_pos (by omega), ih]; omega

theorem isPow2_pow (k : Nat) : isPow2 (2 ^ k) = true := by
  simp [isPow2, ← log2_eq_log2Nat]

theorem denominator_ok {d : PyVal} (h : metaCheckAttr .time_signature 1 d = .ok ()) :
    log2Nat (natOf d) ≤ 255 ∧ PyVal.nat (2 ^ log2Nat (natOf d)) = d := by
  obtain ⟨h1, h2⟩ := bind_ok.mp h
  obtain ⟨n, rfl, h1, h255⟩ := checkInt_ok h1
  simp only at h2
  split at h2
  · rename_i hpow
    have hspec : 2 ^ log2Nat n.toNat = n.toNat := by simp [isPow2] at hpow; exact hpow.2
    simp only [natOf, intOf, hspec]
    refine ⟨?_, by simp only [PyVal.nat, Int.ofNat_eq_natCast, Int.toNat_of_nonneg (Int.le_trans (by decide) h1)]⟩
    have : 2 ^ log2Nat n.toNat ≤ 2 ^ 255 := by rw [hspec]; omega
    exact (Nat.pow_le_pow_iff_right (by decide)).mp this
  · cases h2

theorem seq_roundtrip (n : Nat) : ((n >>> 8) <<< 8) ||| (n &&& 0xff) = n := by
  rw [and255, shr8, be16 _ _ (Nat.mod_lt _ (by decide))]; omega

theorem tempo_roundtrip (n : Nat) : ((n >>> 16) <<< 16) ||| ((n >>> 8 &&& 0xff) <<< 8) ||| (n &&& 0xff) = n := by
  rw [and255, and255, shr8, shr16, be24 _ _ _ (Nat.mod_lt _ (by decide)) (Nat.mod_lt _ (by decide))]; omega

/-- five bits for the hours: `h < 32` is the known finding F5 (documented: 0..255) -/
theorem smpte_roundtrip (c h : Nat) (hc : c < 4) (hh : h < 32) :
    (c <<< 5) ||| h < 256 ∧ ((c <<< 5) ||| h) >>> 5 = c ∧ ((c <<< 5) ||| h) &&& 0x1f = h := by
  rw [← Nat.shiftLeft_add_eq_or_of_lt (show h < 2 ^ 5 by omega), Nat.shiftLeft_eq, Nat.shiftRight_eq_div_pow,
    show (0x1f : Nat) = 2 ^ 5 - 1 from rfl, Nat.and_two_pow_sub_one_eq_mod]
  omega

theorem key_table_roundtrip : ∀ e ∈ keyTable,
    keyEncode (strCodes e.2) = some e.1 ∧
    keyDecode (signedByte (unsignedByte e.1.1)) e.1.2 = some (strCodes e.2) ∧
    unsignedByte e.1.1 < 256 ∧ e.1.2 < 256 := by decide +kernel

theorem keyEncode_sound {s : List Nat} {k : Int} {mode : Nat} (h : keyEncode s = some (k, mode)) :
    keyDecode (signedByte (unsignedByte k)) mode = some s ∧ unsignedByte k < 256 ∧ mode < 256 := by
  obtain ⟨e, hf, he⟩ := Option.map_eq_some_iff.mp h
  have hs : strCodes e.2 = s := by simpa using List.find?_some hf
  have := (key_table_roundtrip e (List.mem_of_find?_eq_some hf)).2
  rwa [he, hs] at this

/-- `24.0`, `25.0`, `30.0` (`.flt 2400` …) are accepted too but decode as ints: not in the list, nor in `MetaMsg.normal` -/
theorem frameRate_roundtrip : ∀ v ∈ [PyVal.int 24, .int 25, .flt 2997, .int 30], ∀ c, frameRateCode v = some c →
    c < 4 ∧ (frameRates.find? (fun r => r.1 == c)).map
      (fun r => if r.2 % 100 = 0 then PyVal.nat (r.2 / 100) else PyVal.flt (Int.ofNat r.2)) = some v := by
  decide +kernel

theorem checkByteItem_ok {x : Item} (h : checkByteItem x = .ok ()) : natItem (itemNat x) = x ∧ itemNat x < 256 := by
  revert h
  fun_cases checkByteItem x <;> intro h <;> cases h
  simp only [itemNat, natItem, Int.ofNat_eq_natCast, Item.int.injEq]; omega

theorem map_natItem_itemNat (xs : List Item) (h : checkByteItems xs = .ok ()) :
    (xs.map itemNat).map natItem = xs ∧ ∀ b ∈ xs.map itemNat, b < 256 := by
  induction xs with
  | nil => exact ⟨rfl, List.forall_mem_nil _⟩
  | cons x r ih =>
    obtain ⟨hx, hr⟩ := bind_ok.mp h
    obtain ⟨e, b⟩ := checkByteItem_ok hx
    obtain ⟨er, br⟩ := ih hr
    exact ⟨by rw [List.map_cons, List.map_cons, e, er], bytes_cons b br⟩

end Mido
