import MidoProofs.Lemmas.Vlq
import MidoProofs.Lemmas.SmfClip
/-! Successful runs of the readers read backwards.  What a reader leaves unread is a suffix of its input, after an event
    a shorter one: this bounds `read_track`'s loop. -/
namespace Mido
open List

theorem readVlq_suffix {bs : List Nat} {v : Nat} {r : List Nat} (h : readVlq bs = .ok (v, r)) :
    r <:+ bs ∧ r.length < bs.length := readVlqAcc_suffix h

theorem readBytes_spec {size : Nat} {bs d r : List Nat} (h : readBytes size bs = .ok (d, r)) :
    d = bs.take size ∧ r = bs.drop size ∧ d.length ≤ maxMessageLength := by
  obtain ⟨h1, h⟩ := guard_eq_ok h
  obtain ⟨h2, h⟩ := guard_eq_ok h
  cases h
  exact ⟨rfl, rfl, by rw [length_take]; omega⟩

theorem sysex_strip_len (data : List Nat) :
    (if (stripF0 data).getLast? = some 0xf7 then (stripF0 data).dropLast else stripF0 data).length ≤ data.length := by
  have h1 : (stripF0 data).length ≤ data.length := by unfold stripF0; split <;> simp
  split
  · simp only [length_dropLast]; omega
  · exact h1

theorem readSysex_ok {clip : Bool} {bs : List Nat} {ev : FEv} {rest : List Nat} (h : readSysex clip bs = .ok (ev, rest)) :
    ∃ n r1 d, readVlq bs = .ok (n, r1) ∧ rest = r1.drop n ∧ ev = .msg (.sysex d) ∧ d.all (· ≤ 127) = true ∧
      d.length ≤ maxMessageLength := by
  unfold readSysex at h
  obtain ⟨⟨n, r1⟩, hv, h⟩ := bind_eq_ok.mp h
  obtain ⟨⟨data, r2⟩, hr, h⟩ := bind_eq_ok.mp h
  obtain ⟨rfl, rfl, hlen⟩ := readBytes_spec hr
  have hsl := sysex_strip_len (take n r1)
  simp only [] at h
  generalize (if (stripF0 (take n r1)).getLast? = some 0xf7 then (stripF0 (take n r1)).dropLast
    else stripF0 (take n r1)) = d2 at h hsl
  have hd3 : (if clip = true then d2.map clipByte else d2).length = d2.length := by split <;> simp
  generalize (if clip = true then d2.map clipByte else d2) = d3 at h hd3
  split at h <;> cases h
  exact ⟨n, r1, d3, hv, rfl, rfl, ‹_›, by omega⟩

theorem readMeta_ok {cs : Charset} {bs : List Nat} {ev : FEv} {rest : List Nat} (h : readMeta cs bs = .ok (ev, rest)) :
    ∃ ty r0 n r1 me, bs = ty :: r0 ∧ readVlq r0 = .ok (n, r1) ∧ rest = r1.drop n ∧
      (r1.take n).length ≤ maxMessageLength ∧ buildMeta cs ty (r1.take n) = .ok me ∧
      ev = match me with | .known m => .metaEv m | .unknown tb d => .unknownMeta tb d := by
  obtain _ | ⟨ty, r0⟩ := bs
  · cases h
  obtain ⟨⟨n, r1⟩, hv, h⟩ := bind_eq_ok.mp h
  obtain ⟨⟨d, r2⟩, hr, h⟩ := bind_eq_ok.mp h
  obtain ⟨me, hbm, h⟩ := bind_eq_ok.mp h
  obtain ⟨rfl, rfl, hlen⟩ := readBytes_spec hr
  refine ⟨ty, r0, n, r1, me, rfl, hv, ?_, hlen, hbm, ?_⟩ <;> cases me <;> cases h <;> rfl

theorem readChannelish_ok {clip : Bool} {st : Nat} {peek bs : List Nat} {ev : FEv} {rest : List Nat}
    (h : readChannelish clip st peek bs = .ok (ev, rest)) :
    ∃ n data m, rest = bs.drop n ∧ decodeNats (st :: data) = .ok m ∧ ev = .msg m := by
  revert h
  fun_cases readChannelish clip st peek bs <;> intro h
  case case4 hm =>
    injections; subst_vars
    exact ⟨_, _, _, rfl, hm, rfl⟩
  all_goals cases h

theorem readKind_suffix {cs : Charset} {clip : Bool} {st : Nat} {peek bs : List Nat} {e : FEv} {r : List Nat}
    (h : readKind cs clip st peek bs = .ok (e, r)) : r <:+ bs := by
  revert h
  fun_cases readKind cs clip st peek bs <;> intro h
  · obtain ⟨ty, r0, n, r1, me, rfl, hv, rfl, -⟩ := readMeta_ok h
    exact ((drop_suffix n r1).trans (readVlq_suffix hv).1).trans (suffix_cons ty r0)
  · obtain ⟨n, r1, d, hv, rfl, -⟩ := readSysex_ok h
    exact (drop_suffix n r1).trans (readVlq_suffix hv).1
  · obtain ⟨n, data, m, rfl, -⟩ := readChannelish_ok h
    exact drop_suffix n bs

theorem readEvent_suffix {cs : Charset} {clip : Bool} {last : Option Nat} {bs : List Nat} {e : LEvent} {r : List Nat}
    {l : Option Nat} (h : readEvent cs clip last bs = .ok (e, r, l)) : r <:+ bs ∧ r.length < bs.length := by
  obtain ⟨sb, r2, st, peek, hv, hk⟩ := readEvent_kind h
  obtain ⟨h1, h1'⟩ := readVlq_suffix hv
  have h2 := readKind_suffix hk
  have := h2.length_le
  rw [length_cons] at h1'
  exact ⟨(h2.trans (suffix_cons sb r2)).trans h1, by omega⟩

end Mido
