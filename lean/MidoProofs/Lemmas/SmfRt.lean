import MidoModel.Smf
import MidoProofs.Lemmas.Vlq
import MidoProofs.Lemmas.Except
import MidoProofs.Spec.Vocab
/-! What the SMF writer accepts (`StorableEv`, `StorableT`, `StorableFile`), its successful runs read backwards, `fix_end_of_track` and
    the normal form of a track (`normTrack`), the byte order of chunk headers and 16-bit fields. -/
namespace Mido
open List

/-- the running status in force is what the reader remembers as last status.  An implication only: where running
    status is cancelled the reader may still remember a byte (a meta event leaves `last_status`, sysex sets it to F0/F7) -/
def Coupled (running last : Option Nat) : Prop := ∀ s, running = some s → last = some s
/-- the writer only remembers channel status bytes -/
def RunOK (running : Option Nat) : Prop := ∀ s, running = some s → 0x80 ≤ s ∧ s < 0xf0

theorem Coupled.none {last : Option Nat} : Coupled none last := fun _ h => nomatch h
theorem RunOK.none : RunOK none := fun _ h => nomatch h

theorem readBytes_append {d rest : List Nat} (h : d.length ≤ maxMessageLength) :
    readBytes d.length (d ++ rest) = .ok (d, rest) := by
  have h1 : ¬ d.length > maxMessageLength := by omega
  simp [readBytes, h1]

def StorableEv (cs : Charset) : FEv → Prop
  | .msg m => m.Valid ∧ m.isRealtime = false ∧ (∀ d, m = .sysex d → d.length + 1 ≤ maxMessageLength)
  | .metaEv mm => mm.check = .ok () ∧ mm.normal = true ∧
      (∀ p, metaPayload cs mm = .ok p → p.length ≤ maxMessageLength)
  | .unknownMeta tb data => MetaType.ofByte tb = none ∧ tb < 256 ∧ data.all (· < 256) = true ∧
      data.length ≤ maxMessageLength

/-- a time that is no integer becomes 0 (never for a `StorableT` event) -/
def TEvent.toL (e : TEvent) : LEvent := ⟨e.ev, match e.time with | .int n => n.toNat | _ => 0⟩

def StorableT (cs : Charset) (e : TEvent) : Prop := StorableEv cs e.ev ∧ ∃ n : Nat, e.time = .int (n : Int)

/-- **Storable file** (the property's precondition, as a predicate on the model's file value):
    every event is one the writer accepts (`StorableT`: checked
    message, normal meta type or unknown meta with byte data, payload within the reader's
    1 000 000-byte limit, natural-number delta), and every track chunk fits a 32-bit length. -/
structure StorableFile (cs : Charset) (f : MFile) : Prop where
  events : ∀ tr ∈ f.tracks, ∀ e ∈ tr, StorableT cs e
  chunk : ∀ tr ∈ f.tracks, ∀ b, writeTrack cs tr = .ok b → b.length < 4294967296

theorem nat_times_ok {tr : List TEvent} (ht : ∀ e ∈ tr, ∃ n : Nat, e.time = .int (n : Int)) :
    tr.all timeOk = true :=
  all_eq_true.mpr fun e he => by
    obtain ⟨n, hn⟩ := ht e he
    simp [timeOk, hn]

theorem writeEvents_cons_ok {cs : Charset} {running : Option Nat} {e : TEvent} {es : List TEvent} {body : List Nat}
    (h : writeEvents cs running (e :: es) = .ok body) :
    ∃ (n : Nat) (b : List Nat) (running' : Option Nat) (R : List Nat), e.time = .int n ∧ e.ev.isRealtime = false ∧
      writeEvent cs running e.ev = .ok (b, running') ∧ writeEvents cs running' es = .ok R ∧
      body = encVlq n ++ b ++ R := by
  rw [writeEvents] at h
  split at h
  · rename_i n hn
    obtain ⟨hneg, h⟩ := guard_eq_ok h
    obtain ⟨hrt, h⟩ := guard_eq_ok h
    obtain ⟨⟨b, running'⟩, hwe, h⟩ := bind_eq_ok.mp h
    obtain ⟨R, hws, h⟩ := bind_eq_ok.mp h
    cases h
    exact ⟨n.toNat, b, running', R, by rw [hn, Int.toNat_of_nonneg (by omega)], by simpa using hrt, hwe, hws, rfl⟩
  · cases h

theorem writeTrack_ok {cs : Charset} {tr : List TEvent} {bytes : List Nat} (h : writeTrack cs tr = .ok bytes) :
    tr.all timeOk = true ∧ ∃ fixed body, fixEotEvents (.int 0) tr = .ok fixed ∧
      writeEvents cs none fixed = .ok body ∧ bytes = mtrk ++ u32be body.length ++ body := by
  obtain ⟨hall, h⟩ := guard_eq_ok h
  obtain ⟨fixed, hfix, h⟩ := bind_eq_ok.mp h
  obtain ⟨body, hb, h⟩ := bind_eq_ok.mp h
  cases h
  exact ⟨by rwa [Bool.not_eq_true', Bool.not_eq_false] at hall, fixed, body, hfix, hb, rfl⟩

theorem writeTracks_cons_ok {cs : Charset} {t : List TEvent} {ts : List (List TEvent)} {bytes : List Nat}
    (h : writeTracks cs (t :: ts) = .ok bytes) :
    ∃ a b, writeTrack cs t = .ok a ∧ writeTracks cs ts = .ok b ∧ bytes = a ++ b := by
  rw [writeTracks] at h
  obtain ⟨a, ha, h⟩ := bind_eq_ok.mp h
  obtain ⟨b, hb, h⟩ := bind_eq_ok.mp h
  cases h
  exact ⟨a, b, ha, hb, rfl⟩

theorem writeTracks_mem {cs : Charset} {trs : List (List TEvent)} {b : List Nat} (hw : writeTracks cs trs = .ok b) :
    ∀ tr ∈ trs, ∃ bt, writeTrack cs tr = .ok bt ∧ bt.length ≤ b.length := by
  induction trs generalizing b with
  | nil => intro tr h; cases h
  | cons t ts ih =>
    obtain ⟨a, b', ha, hb, rfl⟩ := writeTracks_cons_ok hw
    rw [length_append]
    exact forall_mem_cons.mpr ⟨⟨a, ha, Nat.le_add_right _ _⟩, fun tr h =>
      (ih hb tr h).imp fun bt h => ⟨h.1, Nat.le_trans h.2 (Nat.le_add_left _ _)⟩⟩

theorem writeFile_ok {cs : Charset} {f : MFile} {bytes : List Nat} (h : writeFile cs f = .ok bytes) :
    ∃ a b c body, i16be f.type = .ok a ∧ i16be f.tracks.length = .ok b ∧ i16be f.tpb = .ok c ∧
      writeTracks cs f.tracks = .ok body ∧ bytes = mthd ++ u32be 6 ++ a ++ b ++ c ++ body := by
  obtain ⟨a, ha, h⟩ := bind_eq_ok.mp (guard_eq_ok h).2
  obtain ⟨b, hb, h⟩ := bind_eq_ok.mp h
  obtain ⟨c, hc, h⟩ := bind_eq_ok.mp h
  obtain ⟨body, hbody, h⟩ := bind_eq_ok.mp h
  cases h
  exact ⟨a, b, c, body, ha, hb, hc, hbody, rfl⟩

theorem be32_u32be (n : Nat) (h : n < 4294967296) : be32 (u32be n) = n := by
  -- the four base-256 digits of `n`, put together again
  have e3 : n / 16777216 = n / 256 / 256 / 256 := by rw [Nat.div_div_eq_div_mul, Nat.div_div_eq_div_mul]
  have e2 : n / 65536 = n / 256 / 256 := by rw [Nat.div_div_eq_div_mul]
  have h3 : n / 256 / 256 / 256 % 256 = n / 256 / 256 / 256 :=
    Nat.mod_eq_of_lt (by rw [← e3]; exact Nat.div_lt_of_lt_mul h)
  simp only [u32be, be32, e3, e2, h3]
  rw [Nat.div_add_mod', Nat.div_add_mod', Nat.div_add_mod']

theorem u32be_length (n : Nat) : (u32be n).length = 4 := rfl

theorem written_chunks_fit {cs : Charset} {f : MFile} {bytes : List Nat} (hw : writeFile cs f = .ok bytes)
    (hlen : bytes.length < 4294967296) :
    ∀ tr ∈ f.tracks, ∀ b, writeTrack cs tr = .ok b → b.length < 4294967296 := by
  intro tr htr b hb
  obtain ⟨_, _, _, body, -, -, -, hbody, rfl⟩ := writeFile_ok hw
  obtain ⟨bt, hbt, hle⟩ := writeTracks_mem hbody tr htr
  cases hb.symm.trans hbt
  rw [length_append] at hlen
  omega

theorem chunk_header (tag : List Nat) (htag : tag.length = 4) (n : Nat) (hn : n < 4294967296) (rest : List Nat) :
    ¬ (tag ++ u32be n ++ rest).length < 8 ∧ (tag ++ u32be n ++ rest).take 4 = tag ∧
    be32 (((tag ++ u32be n ++ rest).drop 4).take 4) = n ∧ (tag ++ u32be n ++ rest).drop 8 = rest :=
  match tag, htag with
  | [_, _, _, _], _ => ⟨by simp [u32be], rfl, be32_u32be n hn, rfl⟩

theorem i16be_ok {v : Int} {bs : List Nat} (h : i16be v = .ok bs) :
    ∃ a b, bs = [a, b] ∧ a < 256 ∧ b < 256 ∧ s16 a b = v := by
  unfold i16be at h
  split at h
  · rename_i hr
    cases h
    -- `u`: `v` as an unsigned 16-bit number
    obtain ⟨u, hu⟩ : ∃ u : Nat, (if v < 0 then v + 65536 else v) = u :=
      ⟨_, (Int.toNat_of_nonneg (by split <;> omega)).symm⟩
    rw [hu, Int.toNat_natCast]
    have hu16 : u < 256 * 256 := by split at hu <;> omega
    refine ⟨_, _, rfl, Nat.div_lt_of_lt_mul hu16, Nat.mod_lt _ (by decide), ?_⟩
    simp only [s16, Nat.div_add_mod']
    split at hu <;> split <;> omega
  · cases h

theorem i16be_length (v : Int) (bs : List Nat) (h : i16be v = .ok bs) : bs.length = 2 := by
  obtain ⟨a, b, rfl, _⟩ := i16be_ok h
  rfl

theorem fixEot_cons_ok {acc : PyVal} {e : TEvent} {es fixed : List TEvent}
    (h : fixEotEvents acc (e :: es) = .ok fixed) :
    (e.ev.isEot = true ∧ ∃ acc', fixEotEvents acc' es = .ok fixed) ∨
    (e.ev.isEot = false ∧ ∃ t r, fixEotEvents (.int 0) es = .ok r ∧ fixed = ⟨e.ev, t⟩ :: r) := by
  rw [fixEotEvents] at h
  split at h
  · rename_i he
    obtain ⟨a, -, h⟩ := bind_eq_ok.mp h
    exact .inl ⟨he, a, h⟩
  · rename_i he
    refine .inr ⟨by simpa using he, ?_⟩
    split at h
    · obtain ⟨a, -, h⟩ := bind_eq_ok.mp h
      obtain ⟨r, hr, h⟩ := bind_eq_ok.mp h
      cases h; exact ⟨a, r, hr, rfl⟩
    · obtain ⟨r, hr, h⟩ := bind_eq_ok.mp h
      cases h; exact ⟨e.time, r, hr, rfl⟩

/-- with integer times the two branches that keep the message are one: it gets `acc + time` -/
theorem fixEot_int_cons (a n : Int) (e : TEvent) (es : List TEvent) (hn : e.time = .int n) :
    fixEotEvents (.int a) (e :: es) =
      if e.ev.isEot then fixEotEvents (.int (a + n)) es
      else (do let r ← fixEotEvents (.int 0) es; pure (⟨e.ev, .int (a + n)⟩ :: r)) := by
  rw [fixEotEvents, hn]
  by_cases ha : a = 0
  · subst ha
    obtain ⟨ev, t⟩ := e
    cases hn
    simp [pyTruthy, pyAdd, bind, Except.bind]
  · simp [pyTruthy, pyAdd, ha, bind, Except.bind]

theorem eot_storable (cs : Charset) (n : Nat) : StorableT cs (eotEvent (.int (n : Int))) :=
  ⟨⟨by decide, by decide, fun p hp => by cases hp; decide⟩, n, rfl⟩

theorem fixEot_storable (cs : Charset) (tr : List TEvent) : ∀ (acc : Nat),
    (∀ e ∈ tr, StorableT cs e) →
    ∃ fixed, fixEotEvents (.int (acc : Int)) tr = .ok fixed ∧ (∀ e ∈ fixed, StorableT cs e) ∧
      fixEotEvents (.int 0) fixed = .ok fixed := by
  induction tr with
  | nil =>
    refine fun acc _ => ⟨[eotEvent (.int acc)], rfl, forall_mem_singleton.mpr (eot_storable cs acc), ?_⟩
    rw [fixEot_int_cons 0 acc _ [] rfl, Int.zero_add]; rfl
  | cons x xs ih =>
    intro acc hst
    obtain ⟨⟨hsx, n, hn⟩, hrest⟩ := forall_mem_cons.mp hst
    rw [fixEot_int_cons _ _ x xs hn, ← Int.natCast_add]
    split
    · exact ih (acc + n) hrest
    · rename_i hx
      obtain ⟨r, hr, hrs, hid⟩ := ih 0 hrest
      rw [show fixEotEvents (.int 0) xs = .ok r from hr]
      refine ⟨_, rfl, forall_mem_cons.mpr ⟨⟨hsx, acc + n, rfl⟩, hrs⟩, ?_⟩
      rw [fixEot_int_cons 0 _ ⟨x.ev, .int _⟩ r rfl, if_neg hx, hid, Int.zero_add]; rfl

/-- what the reader returns for a written track: its events after `fix_end_of_track` (`[]` if that raises, which it
    does not on integer times) -/
def normTrack (tr : List TEvent) : List LEvent :=
  match fixEotEvents (.int 0) tr with
  | .ok fixed => fixed.map TEvent.toL
  | .error _ => []

def normT (tr : List TEvent) : List TEvent := (normTrack tr).map LEvent.toT

theorem normTrack_eq (cs : Charset) (tr : List TEvent) (hst : ∀ e ∈ tr, StorableT cs e) :
    ∃ fixed, fixEotEvents (.int 0) tr = .ok fixed ∧ normTrack tr = fixed.map TEvent.toL ∧
      (∀ e ∈ fixed, StorableT cs e) ∧ fixEotEvents (.int 0) fixed = .ok fixed := by
  obtain ⟨fixed, hfix, hfs⟩ := fixEot_storable cs tr 0 hst
  exact ⟨fixed, hfix, by rw [normTrack, show fixEotEvents (.int 0) tr = .ok fixed from hfix], hfs⟩

theorem map_toT_toL {tr : List TEvent} (ht : ∀ e ∈ tr, ∃ n : Nat, e.time = .int (n : Int)) :
    (tr.map TEvent.toL).map LEvent.toT = tr := by
  rw [map_map]
  refine (map_congr_left fun ⟨ev, t⟩ he => ?_).trans (map_id tr)
  obtain ⟨n, hn⟩ := ht _ he
  cases hn; rfl

theorem writeTrack_normT (cs : Charset) (tr : List TEvent) (hst : ∀ e ∈ tr, StorableT cs e) :
    writeTrack cs (normT tr) = writeTrack cs tr ∧ (∀ e ∈ normT tr, StorableT cs e) := by
  obtain ⟨fixed, hfix, hn, hfs, hid⟩ := normTrack_eq cs tr hst
  rw [normT, hn, map_toT_toL fun e he => (hfs e he).2]
  refine ⟨?_, hfs⟩
  simp only [writeTrack, nat_times_ok fun e he => (hst e he).2, nat_times_ok fun e he => (hfs e he).2, hfix, hid]

theorem writeTracks_normT (cs : Charset) (trs : List (List TEvent))
    (hst : ∀ tr ∈ trs, ∀ e ∈ tr, StorableT cs e) :
    writeTracks cs (trs.map normT) = writeTracks cs trs := by
  induction trs with
  | nil => rfl
  | cons t ts ih =>
    rw [forall_mem_cons] at hst
    simp only [map_cons, writeTracks, (writeTrack_normT cs t hst.1).1, ih hst.2]

theorem writeEvent_msg (cs : Charset) (running : Option Nat) (m : Msg) (hns : ∀ d, m ≠ .sysex d) :
    writeEvent cs running (.msg m) =
      .ok (if some ((encode m).headD 0) = running then (encode m).tail else encode m,
        if (encode m).headD 0 < 0xf0 then some ((encode m).headD 0) else none) := by
  cases m with
  | sysex d => exact absurd rfl (hns d)
  | _ => rfl

end Mido
