import MidoModel.Codec
import MidoProofs.Lemmas.Bits
import MidoProofs.Lemmas.Except
/-!
  The byte codec of `MidoModel/Codec.lean`; `GoodTok` = the encodings of valid messages (`encode_decodes`, `buildMsg_sound`).
-/
namespace Mido

theorem C3.base_range (k : C3) : k.base % 16 = 0 ∧ 0x80 ≤ k.base ∧ k.base ≤ 0xb0 := by
  cases k <;> decide
theorem C2.base_range (k : C2) : k.base % 16 = 0 ∧ 0xc0 ≤ k.base ∧ k.base ≤ 0xd0 := by
  cases k <;> decide

theorem specLen_cases {s n : Nat} (h : specLen s = some n) :
    (0x80 ≤ s ∧ s < 0xC0 ∧ n = 3) ∨ (0xC0 ≤ s ∧ s < 0xE0 ∧ n = 2) ∨ (0xE0 ≤ s ∧ s < 0xF0 ∧ n = 3) ∨
    ((s = 0xF1 ∨ s = 0xF3) ∧ n = 2) ∨ (s = 0xF2 ∧ n = 3) ∨
    ((s = 0xF6 ∨ s = 0xF8 ∨ s = 0xFA ∨ s = 0xFB ∨ s = 0xFC ∨ s = 0xFE ∨ s = 0xFF) ∧ n = 1) := by
  revert h
  fun_cases specLen s <;> intro h <;> cases h
  case case1 c => exact .inl ⟨c.1, c.2, rfl⟩
  case case2 c => exact .inr (.inl ⟨c.1, c.2, rfl⟩)
  case case3 c => exact .inr (.inr (.inl ⟨c.1, c.2, rfl⟩))
  case case4 c => exact .inr (.inr (.inr (.inl ⟨c, rfl⟩)))
  case case5 c => exact .inr (.inr (.inr (.inr (.inl ⟨c, rfl⟩))))
  case case6 c => exact .inr (.inr (.inr (.inr (.inr ⟨c, rfl⟩))))

theorem specLen_chan3 {s : Nat} (h1 : 0x80 ≤ s) (h2 : s < 0xC0) : specLen s = some 3 := by
  rw [specLen, if_pos ⟨h1, h2⟩]
theorem specLen_chan2 {s : Nat} (h1 : 0xC0 ≤ s) (h2 : s < 0xE0) : specLen s = some 2 := by
  rw [specLen, if_neg (by omega), if_pos ⟨h1, h2⟩]
theorem specLen_pitch {s : Nat} (h1 : 0xE0 ≤ s) (h2 : s < 0xF0) : specLen s = some 3 := by
  rw [specLen, if_neg (by omega), if_neg (by omega), if_pos ⟨h1, h2⟩]

theorem specLen_range {s n : Nat} (h : specLen s = some n) : n = 1 ∨ n = 2 ∨ n = 3 := by
  rcases specLen_cases h with h | h | h | h | h | h <;> omega

theorem specLen_ge {s n : Nat} (h : specLen s = some n) :
    0x80 ≤ s ∧ s ≤ 0xFF ∧ s ≠ 0xF0 ∧ s ≠ 0xF7 := by
  rcases specLen_cases h with h | h | h | h | h | h <;> omega

theorem specLen_le (s : Nat) : (specLen s).getD 0 ≤ 3 := by
  fun_cases specLen s <;> decide

theorem specLen_ne_F0 {s n : Nat} (h : specLen s = some n) : s ≠ 0xF0 := (specLen_ge h).2.2.1

theorem specLen_rt {s n : Nat} (h : specLen s = some n) (hs : 0xF8 ≤ s) : n = 1 := by
  rcases specLen_cases h with h | h | h | h | h | h <;> omega

theorem definedStatus_iff {s : Nat} :
    definedStatus s = true ↔ s = 0xF0 ∨ ∃ n, specLen s = some n := by
  simp [definedStatus, Option.isSome_iff_exists]

theorem defined_small (s : Nat) (h : definedStatus s = true) : s < 256 := by
  rcases definedStatus_iff.mp h with rfl | ⟨n, hn⟩
  · decide
  · have := specLen_ge hn; omega

theorem status_or (b ch : Nat) (hb : b % 16 = 0) (hc : ch < 16) :
    b ||| ch = b + ch ∧ (b + ch) &&& 0x0f = ch := by
  have e : b = b / 16 * 2 ^ 4 := by omega
  rw [and15]
  exact ⟨by rw [e, or_disjoint _ _ 4 hc], by omega⟩

theorem status_split {b s : Nat} (hb : b % 16 = 0) (h1 : b ≤ s) (h2 : s < b + 16) :
    b ||| (s &&& 0x0f) = s := by
  rw [and15, (status_or b (s % 16) hb (by omega)).1]; omega

theorem chan_status {b ch : Nat} (hb : b % 16 = 0) (hc : ch ≤ 15) :
    b ≤ b ||| ch ∧ b ||| ch < b + 16 ∧ (b ||| ch) &&& 0x0f = ch := by
  obtain ⟨e1, e2⟩ := status_or b ch hb (by omega)
  rw [e1]; exact ⟨by omega, by omega, e2⟩

theorem S1.status_range (k : S1) : 0xf6 ≤ k.status ∧ k.status < 256 := by cases k <;> decide

theorem data_one {a : Nat} : [a].all (· ≤ 127) = true ↔ a ≤ 127 := by simp
theorem data_two {a b : Nat} : [a, b].all (· ≤ 127) = true ↔ a ≤ 127 ∧ b ≤ 127 := by simp

theorem inByteRange_iff (d : Int) : inByteRange d = true ↔ 0 ≤ d ∧ d ≤ 127 := by simp [inByteRange]

theorem toNat_list {ds : List Int} (h : ds.all inByteRange = true) :
    (ds.map Int.toNat).map Int.ofNat = ds ∧ (ds.map Int.toNat).all (· ≤ 127) = true := by
  induction ds with
  | nil => simp
  | cons d r ih =>
    simp only [List.all_cons, Bool.and_eq_true] at h
    have hd := (inByteRange_iff d).mp h.1
    have := ih h.2
    simp [this.1, this.2]; omega

theorem checkData_ok {d : List Nat} (h : d.all (· ≤ 127) = true) :
    checkData (d.map (fun x => Item.int (Int.ofNat x))) = .ok d := by
  induction d with
  | nil => rfl
  | cons x xs ih =>
    simp only [List.all_cons, Bool.and_eq_true, decide_eq_true_eq] at h
    simp only [List.map_cons, checkData]
    have : (0:Int) ≤ Int.ofNat x ∧ Int.ofNat x ≤ 127 := by constructor <;> simp <;> omega
    rw [if_pos this, ih h.2]; rfl

theorem checkData_ints (ds : List Int) :
    checkData (ds.map .int) =
      if ds.all inByteRange then .ok (ds.map Int.toNat) else .error .ValueError := by
  induction ds with
  | nil => rfl
  | cons d rest ih =>
    simp only [List.map_cons, checkData, List.all_cons, ih]
    simp only [← inByteRange_iff]
    by_cases h : inByteRange d = true <;> by_cases h2 : rest.all inByteRange = true <;>
      simp [h, h2, Except.map]

theorem decodeInts_ofNat (t : List Nat) : decodeInts (t.map Int.ofNat) = decodeNats t := by
  simp [decodeInts, decodeNats, Function.comp_def]

/-- `decode` on a numeric status item, unfolded once (the two arms of its `match`, int and integral float, differ in `isInt`
    only): every other lemma about `decode` goes through this one and leaves the definition folded -/
theorem decode_num (n : Int) (isInt : Bool) (data : List Item) :
    decode ((if isInt then Item.int n else Item.flt n) :: data) =
      if n < 0 then .error .ValueError else
      if !definedStatus n.toNat then .error .ValueError else
      if n.toNat = 0xF0 then
        match data.getLast? with
        | none => .error .ValueError
        | some e =>
          if e = .int 0xF7 ∨ e = .flt 0xF7 then (checkData data.dropLast).map .sysex else .error .ValueError
      else checkData data >>= fun d =>
        if some (d.length + 1) ≠ specLen n.toNat then .error .ValueError else buildMsg n.toNat isInt d := by
  cases isInt <;> rfl

theorem decode_fixed {s : Nat} {d : List Nat}
    (hd : d.all (· ≤ 127) = true) (hl : specLen s = some (d.length + 1)) :
    decodeNats (s :: d) = buildMsg s true d := by
  refine (decode_num s true _).trans ?_
  rw [if_neg (Int.not_lt.mpr (Int.natCast_nonneg s)), Int.toNat_natCast, definedStatus_iff.mpr (.inr ⟨_, hl⟩), if_neg (by decide),
    if_neg (specLen_ne_F0 hl), checkData_ok hd, hl]
  exact if_neg (fun h => h rfl)

theorem decode_sysex {d : List Nat} (hd : d.all (· ≤ 127) = true) :
    decodeNats ([0xf0] ++ d ++ [0xf7]) = .ok (.sysex d) := by
  simp only [decodeNats, List.cons_append, List.nil_append, List.map_cons, List.map_append, List.map_nil]
  refine (decode_num 0xF0 true _).trans ?_
  rw [if_neg (by decide), if_neg (by decide), if_pos (by decide), List.getLast?_concat, List.dropLast_concat,
    checkData_ok hd]
  rfl

theorem decodeInts_cons (s : Int) (ds : List Int) :
    decodeInts (s :: ds) =
      if s < 0 then .error .ValueError else
      if definedStatus s.toNat = false then .error .ValueError else
      if s.toNat = 0xF0 then
        match ds.getLast? with
        | none => .error .ValueError
        | some e => if e = 0xF7 then (checkData (ds.dropLast.map .int)).map .sysex
                    else .error .ValueError
      else (checkData (ds.map .int)).bind fun d =>
        if some (d.length + 1) ≠ specLen s.toNat then .error .ValueError
        else buildMsg s.toNat true d := by
  refine (decode_num s true _).trans ?_
  rw [List.getLast?_map]
  cases ds.getLast? <;> simp [Item.int.injEq] <;> rfl

theorem buildMsg_chan3 (k : C3) {s : Nat} (h1 : k.base ≤ s) (h2 : s < k.base + 16) (d1 d2 : Nat) :
    buildMsg s true [d1, d2] = .ok (.chan3 k (s &&& 0x0f) d1 d2) := by
  cases k <;> simp only [C3.base] at h1 h2 <;>
    simp only [buildMsg, Bool.not_true, Bool.false_eq_true, if_false]
  · rw [if_pos (by omega), if_pos (by omega)]
  · rw [if_pos (by omega), if_neg (by omega), if_pos (by omega)]
  · rw [if_pos (by omega), if_neg (by omega), if_neg (by omega), if_pos (by omega)]
  · rw [if_pos (by omega), if_neg (by omega), if_neg (by omega), if_neg (by omega),
      if_pos (by omega)]

theorem buildMsg_chan2 (k : C2) {s : Nat} (h1 : k.base ≤ s) (h2 : s < k.base + 16) (d1 : Nat) :
    buildMsg s true [d1] = .ok (.chan2 k (s &&& 0x0f) d1) := by
  cases k <;> simp only [C2.base] at h1 h2 <;>
    simp only [buildMsg, Bool.not_true, Bool.false_eq_true, if_false]
  · rw [if_pos (by omega), if_pos (by omega)]
  · rw [if_pos (by omega), if_neg (by omega)]

/-- pitchwheel is songpos with an offset: the two data bytes packed, minus 8192 -/
theorem buildMsg_pitch {s : Nat} (h1 : 0xe0 ≤ s) (h2 : s < 0xf0) {d1 : Nat} (hd1 : d1 ≤ 127) (d2 : Nat) :
    buildMsg s true [d1, d2] = .ok (.pitchwheel (s &&& 0x0f) (((d1 ||| d2 <<< 7 : Nat) : Int) - 8192)) := by
  simp only [buildMsg, Bool.not_true, Bool.false_eq_true, if_false]
  rw [if_pos (by omega), if_neg (by omega), if_neg (by omega), if_neg (by omega), if_neg (by omega),
    pitch_lor d1 d2 (by omega), shl7, or128' d2 d1 (by omega)]
  congr 2; omega

theorem buildMsg_sys1 (k : S1) : buildMsg k.status true [] = .ok (.sys1 k) := by cases k <;> rfl

theorem C3.exists_base {s : Nat} (h1 : 0x80 ≤ s) (h2 : s < 0xC0) :
    ∃ k : C3, k.base ≤ s ∧ s < k.base + 16 :=
  if c1 : s < 0x90 then ⟨.note_off, h1, c1⟩
  else if c2 : s < 0xa0 then ⟨.note_on, by simp only [C3.base]; omega, c2⟩
  else if c3 : s < 0xb0 then ⟨.polytouch, by simp only [C3.base]; omega, c3⟩
  else ⟨.control_change, by simp only [C3.base]; omega, h2⟩

theorem C2.exists_base {s : Nat} (h1 : 0xC0 ≤ s) (h2 : s < 0xE0) :
    ∃ k : C2, k.base ≤ s ∧ s < k.base + 16 :=
  if c1 : s < 0xd0 then ⟨.program_change, h1, c1⟩
  else ⟨.aftertouch, by simp only [C2.base]; omega, h2⟩

theorem S1.exists_status {s : Nat}
    (h : s = 0xF6 ∨ s = 0xF8 ∨ s = 0xFA ∨ s = 0xFB ∨ s = 0xFC ∨ s = 0xFE ∨ s = 0xFF) :
    ∃ k, s1OfStatus s = some k ∧ s = k.status := by
  rcases h with rfl | rfl | rfl | rfl | rfl | rfl | rfl <;> exact ⟨_, rfl, rfl⟩

/-- a token that is one complete message (`s ≠ 0xF0` follows from the `specLen` clause: `specLen_ne_F0`) -/
def GoodTok (t : List Nat) : Prop :=
  (∃ s d, t = s :: d ∧ s ≠ 0xF0 ∧ d.all (· ≤ 127) = true ∧ specLen s = some (d.length + 1)) ∨
  (∃ d, t = [0xF0] ++ d ++ [0xF7] ∧ d.all (· ≤ 127) = true)

theorem encode_status (m : Msg) : ∃ d, encode m = m.status :: d := by
  cases m <;> exact ⟨_, rfl⟩

theorem encode_decodes (m : Msg) (hv : m.Valid) (hns : ∀ d, m ≠ .sysex d) :
    ∃ d, encode m = m.status :: d ∧ d.all (· ≤ 127) = true ∧ specLen m.status = some (d.length + 1) ∧
      decodeNats (m.status :: d) = .ok m := by
  suffices ∃ d, encode m = m.status :: d ∧ d.all (· ≤ 127) = true ∧ specLen m.status = some (d.length + 1) ∧
      buildMsg m.status true d = .ok m from
    let ⟨d, he, hd, hl, hb⟩ := this
    ⟨d, he, hd, hl, (decode_fixed hd hl).trans hb⟩
  cases m <;> simp only [Msg.Valid, Msg.valid, Bool.and_eq_true, decide_eq_true_eq] at hv
  case chan3 k ch d1 d2 =>
    have hk := k.base_range
    obtain ⟨h1, h2, h3⟩ := chan_status (ch := ch) hk.1 hv.1.1
    exact ⟨[d1, d2], rfl, data_two.mpr ⟨hv.1.2, hv.2⟩, (specLen_chan3 (by omega) (by omega) : specLen (k.base ||| ch) = _),
      by rw [Msg.status, buildMsg_chan3 k h1 h2, h3]⟩
  case chan2 k ch d1 =>
    have hk := k.base_range
    obtain ⟨h1, h2, h3⟩ := chan_status (ch := ch) hk.1 hv.1
    exact ⟨[d1], rfl, data_one.mpr hv.2, (specLen_chan2 (by omega) (by omega) : specLen (k.base ||| ch) = _),
      by rw [Msg.status, buildMsg_chan2 k h1 h2, h3]⟩
  case pitchwheel ch p =>
    obtain ⟨h1, h2, h3⟩ := chan_status (b := 0xe0) (ch := ch) rfl hv.1.1
    obtain ⟨e1, e2, e3⟩ := split14 (p - (-8192)).toNat (by omega)
    refine ⟨_, rfl, data_two.mpr ⟨e1, e2⟩, specLen_pitch h1 h2, ?_⟩
    rw [Msg.status, buildMsg_pitch h1 h2 e1, h3, e3]
    congr 2; omega
  case sysex d => exact absurd rfl (hns d)
  case quarter_frame ft fv =>
    obtain ⟨e1, e2, e3⟩ := join7 hv.1 hv.2
    exact ⟨_, rfl, data_one.mpr e1, rfl, by rw [Msg.status, buildMsg, if_neg (by decide), if_pos rfl, e2, e3]⟩
  case songpos p =>
    obtain ⟨e1, e2, e3⟩ := split14 p hv
    exact ⟨_, rfl, data_two.mpr ⟨e1, e2⟩, rfl, by rw [Msg.status, buildMsg, if_neg (by decide), e3]⟩
  case song_select s => exact ⟨[s], rfl, data_one.mpr hv, rfl, rfl⟩
  case sys1 k => exact ⟨[], rfl, rfl, by cases k <;> rfl, buildMsg_sys1 k⟩

theorem encode_fixed (m : Msg) (hv : m.Valid) (hns : ∀ d, m ≠ .sysex d) :
    ∃ d, encode m = m.status :: d ∧ d.all (· ≤ 127) = true ∧ specLen m.status = some (d.length + 1) :=
  let ⟨d, he, hd, hl, _⟩ := encode_decodes m hv hns
  ⟨d, he, hd, hl⟩

theorem encode_good (m : Msg) (h : m.Valid) : GoodTok (encode m) := by
  by_cases hs : ∃ d, m = .sysex d
  · obtain ⟨d, rfl⟩ := hs; exact .inr ⟨d, rfl, h⟩
  · obtain ⟨d, he, hd, hl⟩ := encode_fixed m h (fun d hd => hs ⟨d, hd⟩)
    exact .inl ⟨_, d, he, specLen_ne_F0 hl, hd, hl⟩

theorem buildMsg_sound {s : Nat} {d : List Nat} (hd : d.all (· ≤ 127) = true)
    (hl : specLen s = some (d.length + 1)) :
    ∃ m, buildMsg s true d = .ok m ∧ m.valid = true ∧ encode m = s :: d := by
  rcases specLen_cases hl with ⟨h1, h2, hn⟩ | ⟨h1, h2, hn⟩ | ⟨h1, h2, hn⟩ | ⟨hs, hn⟩ | ⟨rfl, hn⟩ |
    ⟨hs, hn⟩
  · obtain ⟨d1, d2, rfl⟩ := length_two (l := d) (by omega)
    obtain ⟨k, hk1, hk2⟩ := C3.exists_base h1 h2
    obtain ⟨hd1, hd2⟩ := data_two.mp hd
    refine ⟨_, buildMsg_chan3 k hk1 hk2 d1 d2, ?_, ?_⟩
    · simp [Msg.valid, and15, hd1, hd2]; omega
    · rw [encode, status_split k.base_range.1 hk1 hk2]
  · obtain ⟨d1, rfl⟩ := List.length_eq_one_iff.mp (show d.length = 1 by omega)
    obtain ⟨k, hk1, hk2⟩ := C2.exists_base h1 h2
    refine ⟨_, buildMsg_chan2 k hk1 hk2 d1, ?_, ?_⟩
    · simp [Msg.valid, and15, data_one.mp hd]; omega
    · rw [encode, status_split k.base_range.1 hk1 hk2]
  · obtain ⟨d1, d2, rfl⟩ := length_two (l := d) (by omega)
    obtain ⟨hd1, hd2⟩ := data_two.mp hd
    obtain ⟨e1, e2, e3⟩ := join14 hd1 hd2
    refine ⟨_, buildMsg_pitch h1 h2 hd1 d2, ?_, ?_⟩
    · simp [Msg.valid, and15]; omega
    · rw [encode, Int.sub_neg, Int.sub_add_cancel, Int.toNat_natCast, status_split rfl h1 h2, e2, e3]
  · obtain ⟨d1, rfl⟩ := List.length_eq_one_iff.mp (show d.length = 1 by omega)
    have hd1 := data_one.mp hd
    rcases hs with rfl | rfl
    · obtain ⟨e1, e2, e3⟩ := split7 d1 hd1
      exact ⟨.quarter_frame (d1 >>> 4) (d1 &&& 15), rfl, by simp [Msg.valid, e1, e2], by rw [encode, e3]⟩
    · exact ⟨.song_select d1, rfl, by simp [Msg.valid, hd1], rfl⟩
  · obtain ⟨d1, d2, rfl⟩ := length_two (l := d) (by omega)
    obtain ⟨hd1, hd2⟩ := data_two.mp hd
    obtain ⟨e1, e2, e3⟩ := join14 hd1 hd2
    exact ⟨.songpos (d1 ||| d2 <<< 7), rfl, by simpa [Msg.valid] using e1, by rw [encode, e2, e3]⟩
  · obtain rfl : d = [] := List.eq_nil_of_length_eq_zero (by omega)
    obtain ⟨k, -, rfl⟩ := S1.exists_status hs
    exact ⟨.sys1 k, buildMsg_sys1 k, rfl, rfl⟩

theorem GoodTok.decodes {t : List Nat} (h : GoodTok t) :
    ∃ m, decodeNats t = .ok m ∧ m.Valid ∧ encode m = t := by
  rcases h with ⟨s, d, rfl, hs, hd, hl⟩ | ⟨d, rfl, hd⟩
  · rw [decode_fixed hd hl]
    exact buildMsg_sound hd hl
  · exact ⟨.sysex d, decode_sysex hd, hd, rfl⟩

theorem decode_encode (m : Msg) (h : m.Valid) : decodeNats (encode m) = .ok m := by
  by_cases hs : ∃ d, m = .sysex d
  · obtain ⟨d, rfl⟩ := hs; exact decode_sysex h
  · obtain ⟨d, he, -, -, hdec⟩ := encode_decodes m h (fun d hd => hs ⟨d, hd⟩)
    rw [he]; exact hdec

theorem decode_single {s : Nat} (h : specLen s = some 1) :
    ∃ k, s1OfStatus s = some k ∧ decodeNats [s] = .ok (.sys1 k) := by
  rcases specLen_cases h with h | h | h | h | h | ⟨hs, -⟩ <;> try omega
  obtain ⟨k, hk, rfl⟩ := S1.exists_status hs
  exact ⟨k, hk, (decode_fixed (d := []) rfl h).trans (buildMsg_sys1 k)⟩

theorem GoodTok.single {s : Nat} (h : specLen s = some 1) : GoodTok [s] :=
  .inl ⟨s, [], rfl, specLen_ne_F0 h, rfl, h⟩

theorem all127 {d : List Nat} (h : d.all (· ≤ 127) = true) : ∀ x ∈ d, x < 128 :=
  fun x hx => Nat.lt_succ_of_le (of_decide_eq_true (List.all_eq_true.mp h x hx))

theorem GoodTok.bytes_lt {t : List Nat} (h : GoodTok t) : ∀ b ∈ t, b < 256 := by
  intro b hb
  rcases h with ⟨s, d, rfl, _, hd, hl⟩ | ⟨d, rfl, hd⟩
  · rcases List.mem_cons.mp hb with rfl | hb
    · have := specLen_ge hl; omega
    · have := all127 hd b hb; omega
  · simp only [List.cons_append, List.nil_append, List.mem_cons, List.mem_append,
      List.not_mem_nil, or_false] at hb
    rcases hb with rfl | hb | rfl
    · omega
    · have := all127 hd b hb; omega
    · omega

theorem encode_bytes_lt (m : Msg) (h : m.Valid) : ∀ b ∈ encode m, b < 256 :=
  (encode_good m h).bytes_lt

end Mido
