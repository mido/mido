import MidoProofs.Lemmas.TokStep
/-! The emitted-token list is append-only and never read: feeding commutes with prepending
    tokens to `out`.  (C05/C06) -/
namespace Mido

def Tok.prepend (o : List (List Nat)) (st : Tok) : Tok := { st with out := o ++ st.out }

@[simp] theorem Tok.prepend_status (o) (st : Tok) : (st.prepend o).status = st.status := rfl
@[simp] theorem Tok.prepend_bytes (o) (st : Tok) : (st.prepend o).bytes = st.bytes := rfl
@[simp] theorem Tok.prepend_len (o) (st : Tok) : (st.prepend o).len = st.len := rfl
@[simp] theorem Tok.prepend_out (o) (st : Tok) : (st.prepend o).out = o ++ st.out := rfl

theorem Tok.feedByte_prepend (o) (st : Tok) (b : Nat) :
    (st.prepend o).feedByte b = (st.feedByte b).prepend o := by
  by_cases hd : b < 128
  · rw [Tok.feedByte_data _ hd, Tok.feedByte_data _ hd]
    by_cases hs : st.status = 0
    · rw [Tok.feedData_idle (st.prepend o) b hs, Tok.feedData_idle st b hs]
    by_cases hl : st.bytes.length + 1 = st.len
    · rw [Tok.feedData_close (st.prepend o) b hs hl, Tok.feedData_close st b hs hl]; simp [Tok.prepend]
    · rw [Tok.feedData_push (st.prepend o) b hs hl, Tok.feedData_push st b hs hl]; rfl
  rw [Tok.feedByte_status _ (by omega), Tok.feedByte_status _ (by omega)]
  by_cases h7 : b = 0xF7
  · subst h7
    rw [Tok.feedStatus_sysexEnd, Tok.feedStatus_sysexEnd, Tok.prepend_status]
    split <;> simp [Tok.prepend]
  by_cases hrt : 0xF8 ≤ b
  · rw [Tok.feedStatus_rt _ hrt, Tok.feedStatus_rt _ hrt, Tok.prepend_status]
    by_cases d : definedStatus b = true <;> simp [Tok.prepend, d]
  by_cases h0 : b = 0xF0
  · subst h0; rfl
  cases hl : specLen b with
  | none => rw [Tok.feedStatus_undefined _ hl h0 h7 (by omega), Tok.feedStatus_undefined _ hl h0 h7 (by omega)]
  | some n =>
    rw [Tok.feedStatus_fixed _ hl (by omega), Tok.feedStatus_fixed _ hl (by omega)]
    split <;> simp [Tok.prepend]

theorem Tok.feed_prepend (o) (st : Tok) (bs : List Nat) :
    (st.prepend o).feed bs = (st.feed bs).prepend o :=
  List.foldl_hom (Tok.prepend o) (Tok.feedByte_prepend o)

/-- state with the emitted tokens taken away (what `Parser._decode` leaves behind) -/
def Tok.clear (st : Tok) : Tok := { st with out := [] }

theorem Tok.prepend_clear (st : Tok) : st.clear.prepend st.out = st := by
  simp [Tok.clear, Tok.prepend]

theorem Tok.feed_clear (st : Tok) (bs : List Nat) :
    (st.feed bs).out = st.out ++ (st.clear.feed bs).out ∧ (st.feed bs).clear = (st.clear.feed bs).clear := by
  have := Tok.feed_prepend st.out st.clear bs
  rw [Tok.prepend_clear] at this
  rw [this]
  exact ⟨rfl, rfl⟩

end Mido
