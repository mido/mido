import MidoProofs.Spec.SmfEnc
import MidoProofs.Lemmas.SmfRt
import MidoProofs.Lemmas.SmfClip
import MidoProofs.Lemmas.Codec
import MidoProofs.Props.C09
/-! The reader inverts every member of the SMF encoding relation, the writer produces members (C08); composed: the
    round trip (C07). -/
namespace Mido
open List

theorem stripF0_data (d : List Nat) (hd : d.all (· ≤ 127) = true) : stripF0 (d ++ [0xf7]) = d ++ [0xf7] := by
  cases d with
  | nil => rfl
  | cons x xs =>
    have hx : x ≤ 127 := Nat.le_of_lt_succ (all127 hd x mem_cons_self)
    rw [cons_append, stripF0]
    · intro t heq; cases heq; omega

theorem readSysex_enc (clip : Bool) (d lb rest : List Nat) (hd : d.all (· ≤ 127) = true)
    (hl : VlqDenotes lb 0 (d.length + 1)) (hmax : d.length + 1 ≤ maxMessageLength) :
    readSysex clip (lb ++ (d ++ 0xf7 :: rest)) = .ok (.msg (.sysex d), rest) := by
  have hlen : (d ++ [0xf7]).length = d.length + 1 := length_append
  rw [readSysex, append_cons d, readVlq_denotes hl, ← hlen]
  simp only [bind, Except.bind, readBytes_append (hlen ▸ hmax), stripF0_data d hd, getLast?_concat,
    dropLast_concat, if_true, map_clip_id d hd, ite_self, hd]
  rfl

theorem readMeta_enc (cs : Charset) (mm : MetaMsg) (hc : mm.check = .ok ()) (hn : mm.normal = true)
    (p lb rest : List Nat) (hp : metaPayload cs mm = .ok p) (hl : VlqDenotes lb 0 p.length)
    (hmax : p.length ≤ maxMessageLength) :
    readMeta cs (mm.ty.typeByte :: (lb ++ (p ++ rest))) = .ok (.metaEv mm, rest) := by
  obtain ⟨_, hd⟩ := C09_payload_roundtrip cs mm hc hn p hp
  simp only [readMeta, readVlq_denotes hl, bind, Except.bind, readBytes_append hmax, buildMeta,
    ofByte_typeByte, hd, Except.map, pure, Except.pure]

theorem readMeta_unknown_enc (cs : Charset) (tb : Nat) (data lb rest : List Nat) (hu : MetaType.ofByte tb = none)
    (hl : VlqDenotes lb 0 data.length) (hmax : data.length ≤ maxMessageLength) :
    readMeta cs (tb :: (lb ++ (data ++ rest))) = .ok (.unknownMeta tb data, rest) := by
  simp only [readMeta, readVlq_denotes hl, bind, Except.bind, readBytes_append hmax, buildMeta, hu,
    pure, Except.pure]

theorem readChannelish_enc (clip : Bool) {s : Nat} (peek d rest : List Nat) (m : Msg)
    (hl : specLen s = some ((peek ++ d).length + 1)) (hd : (peek ++ d).all (· ≤ 127) = true)
    (hm : decodeNats (s :: (peek ++ d)) = .ok m) :
    readChannelish clip s peek (d ++ rest) = .ok (.msg m, rest) := by
  have hsz : (peek ++ d).length + 1 - 1 - peek.length = d.length := by simp
  have h1 : ¬ (d ++ rest).length < d.length := by simp
  simp only [readChannelish, definedStatus_iff.mpr (.inr ⟨_, hl⟩), hl, hsz, h1, take_left', drop_left', (any_gt_iff _).mpr hd,
    map_clip_id _ hd]
  simp [hm]

theorem readEvent_denotes (cs : Charset) (clip : Bool) (last : Option Nat) {db : List Nat} {n : Nat}
    (hd : VlqDenotes db 0 n) (sb : Nat) (r : List Nat) :
    readEvent cs clip last (db ++ sb :: r) =
      if sb < 0x80 then
        match last with
        | none => throw .OSError
        | some st => (do let (e, r') ← readKind cs clip st [sb] r; pure (⟨e, n⟩, r', last))
      else (do let (e, r') ← readKind cs clip sb [] r; pure (⟨e, n⟩, r', if sb = 0xff then last else some sb)) := by
  rw [readEvent_eq, readVlq_denotes hd]
  rfl

theorem rsAfter_msg {m : Msg} {s : Nat} (h : rsAfter (.msg m) = some s) : m.status = s ∧ s < 0xf0 := by
  obtain ⟨hlt, rfl⟩ := Option.ite_some_none_eq_some.mp h
  exact ⟨rfl, hlt⟩

/-- the last conjunct tells the size-counted loop of `readEvents_enc` that it is not yet at the end of the chunk -/
theorem readEvent_enc {cs : Charset} (clip : Bool) {rs last : Option Nat}
    (hc : Coupled rs last) {ev : FEv} {eb : List Nat} (he : EncEv cs rs ev eb)
    {db : List Nat} {n : Nat} (hd : VlqDenotes db 0 n) (rest : List Nat) :
    ∃ last', readEvent cs clip last (db ++ eb ++ rest) = .ok (⟨ev, n⟩, rest, last') ∧
      Coupled (rsAfter ev) last' ∧ eb ≠ [] := by
  cases he with
  | full m hv hnr hns =>
    obtain ⟨d, hen, hdd, hl, hdec⟩ := encode_decodes m hv hns
    -- a status byte, not real-time: neither FF nor F0/F7
    have hg := specLen_ge hl
    have hlt : m.status < 0xF8 := Nat.not_le.mp (of_decide_eq_false hnr)
    have hff : m.status ≠ 0xff := by omega
    refine ⟨some m.status, ?_, fun x hx => congrArg some (rsAfter_msg hx).1, hen ▸ cons_ne_nil _ _⟩
    rw [hen, append_assoc, cons_append, readEvent_denotes cs clip last hd, if_neg (Nat.not_lt.mpr hg.1),
      readKind_chan hff (by omega), readChannelish_enc clip [] d rest m hl hdd hdec]
    exact congrArg (fun l => Except.ok (_, rest, l)) (if_neg hff)
  | running m hv hch hrs =>
    have hns : ∀ d, m ≠ .sysex d := by rintro d rfl; exact Nat.lt_irrefl _ hch
    obtain ⟨d, hen, hdd, hl, hdec⟩ := encode_decodes m hv hns
    cases hc _ hrs
    -- a channel message has at least one data byte
    obtain ⟨d1, d', rfl⟩ := exists_cons_of_length_pos (l := d) (by have := specLen_cases hl; omega)
    refine ⟨some m.status, ?_, fun x hx => congrArg some (rsAfter_msg hx).1, hen ▸ cons_ne_nil _ _⟩
    rw [hen, tail_cons, append_assoc, cons_append, readEvent_denotes cs clip _ hd,
      if_pos (all127 hdd d1 mem_cons_self)]
    show (readKind cs clip m.status [d1] (d' ++ rest) >>= _) = _
    rw [readKind_chan (by omega) (by omega), readChannelish_enc clip [d1] d' rest m hl hdd hdec]
    rfl
  | sysex d lb hdd hl hmax =>
    refine ⟨some 0xf0, ?_, .none, (by simp)⟩
    simp only [append_assoc, cons_append, nil_append]
    rw [readEvent_denotes cs clip last hd, if_neg (by decide), readKind_sysex,
      readSysex_enc clip d lb rest hdd hl hmax]
    rfl
  | metaEv mm p lb hcheck hnorm hp hl hmax =>
    refine ⟨last, ?_, .none, (by simp)⟩
    simp only [append_assoc, cons_append, nil_append]
    rw [readEvent_denotes cs clip last hd, if_neg (by decide), readKind_meta,
      readMeta_enc cs mm hcheck hnorm p lb rest hp hl hmax]
    rfl
  | unknownMeta tb data lb hu hl hmax =>
    refine ⟨last, ?_, .none, (by simp)⟩
    simp only [append_assoc, cons_append, nil_append]
    rw [readEvent_denotes cs clip last hd, if_neg (by decide), readKind_meta,
      readMeta_unknown_enc cs tb data lb rest hu hl hmax]
    rfl

theorem readEvents_enc {cs : Charset} (clip : Bool) {rs : Option Nat} {evs : List LEvent}
    {body : List Nat} (hb : EncBody cs rs evs body) : ∀ (last : Option Nat) (consumed fuel size : Nat) (rest : List Nat),
    Coupled rs last → consumed + body.length = size → evs.length < fuel →
    readEvents cs clip size fuel consumed last (body ++ rest) = .ok (evs, rest) := by
  induction hb with
  | nil rs =>
    intro last consumed fuel size rest _ hsz hf
    obtain _ | f := fuel
    · exact absurd hf (Nat.not_lt_zero _)
    rw [readEvents, if_pos (by simpa using hsz)]
    rfl
  | cons rs e db eb es R hd he _ ih =>
    intro last consumed fuel size rest hc hsz hf
    obtain ⟨last', hre, hc', hbne⟩ := readEvent_enc clip hc he hd (R ++ rest)
    obtain _ | f := fuel
    · exact absurd hf (Nat.not_lt_zero _)
    have hpos : 0 < eb.length := length_pos_iff.mpr hbne
    rw [length_append, length_append] at hsz
    rw [readEvents, if_neg (by omega), append_assoc (db ++ eb), hre]
    simp only [bind, Except.bind]
    rw [ih last' _ f size rest hc' (by rw [length_append (as := db ++ eb), Nat.add_sub_cancel, length_append]; omega)
      (Nat.lt_of_succ_lt_succ hf)]
    rfl

theorem encBody_length {cs : Charset} {rs : Option Nat} {evs : List LEvent} {body : List Nat}
    (hb : EncBody cs rs evs body) : evs.length ≤ body.length := by
  induction hb with
  | nil => simp
  | cons rs e db eb es R hd he _ ih =>
    have : 0 < db.length := length_pos_iff.mpr fun e => (e ▸ hd.shape : VlqShape [])
    simp only [length_cons, length_append]
    omega

theorem readTrack_enc {cs : Charset} (clip : Bool) {evs : List LEvent} {bytes : List Nat}
    (ht : EncTrack cs evs bytes) (rest : List Nat) :
    readTrack cs clip (bytes ++ rest) = .ok (evs, rest) := by
  cases ht with
  | mk body hb hlen =>
    obtain ⟨h8, ht, hsz, hd8⟩ := chunk_header mtrk rfl body.length hlen (body ++ rest)
    rw [append_assoc, readTrack, if_neg h8, ht, if_neg (by simp), hsz, hd8]
    exact readEvents_enc clip hb none 0 _ body.length rest .none
      (Nat.zero_add _) (by
        have := encBody_length hb
        rw [length_append]; omega)

theorem readTracks_enc {cs : Charset} (clip : Bool) {ts : List (List LEvent)} {bytes : List Nat}
    (h : EncTracks cs ts bytes) : readTracks cs clip ts.length bytes = .ok ts := by
  induction h with
  | nil => rfl
  | cons t ts a b ha _ ih =>
    simp only [length_cons, readTracks, bind, Except.bind, readTrack_enc clip ha b, ih, pure, Except.pure]

theorem readFile_enc (cs : Charset) (clip : Bool) (f : LFile) (bytes : List Nat)
    (h : EncFile cs f bytes) : readFile cs clip bytes = .ok f := by
  cases h with
  | mk t1 t2 n1 n2 d1 d2 extra chunks ht hn hd hx hc =>
    obtain ⟨h8, h4, hsz, hd8⟩ := chunk_header mthd rfl _ hx (([t1, t2, n1, n2, d1, d2] ++ extra) ++ chunks)
    have hlen : ([t1, t2, n1, n2, d1, d2] ++ extra).length = 6 + extra.length := length_append
    rw [append_assoc _ _ extra, append_assoc _ _ chunks, readFile, if_neg h8, h4, if_neg (by simp)]
    simp only [hsz, hd8]
    rw [← hlen, take_left' rfl, drop_left' rfl]
    show (do let ts ← readTracks cs clip (s16 n1 n2).toNat chunks; pure (LFile.mk (s16 t1 t2) (s16 d1 d2) ts)) = _
    rw [hn.2.2, Int.toNat_natCast, readTracks_enc clip hc, ht.2.2, hd.2.2]
    rfl

theorem writeEvent_enc (cs : Charset) (ev : FEv) (hst : StorableEv cs ev) {running : Option Nat} (hr : RunOK running)
    {bs : List Nat} {running' : Option Nat} (hw : writeEvent cs running ev = .ok (bs, running')) :
    EncEv cs running ev bs ∧ running' = rsAfter ev ∧ RunOK running' := by
  cases ev with
  | metaEv mm =>
    obtain ⟨hcheck, hnorm, hlen⟩ := hst
    obtain ⟨b, hb, hw⟩ := bind_eq_ok.mp hw
    cases hw
    obtain ⟨p, hp, rfl⟩ := C09_form cs mm _ hb
    exact ⟨.metaEv mm p _ hcheck hnorm hp (denotes_encVlq _) (hlen p hp), rfl, .none⟩
  | unknownMeta tb data =>
    obtain ⟨hu, htb, hdata, hlen⟩ := hst
    simp only [writeEvent, hdata, htb, decide_true, Bool.and_self, if_true, Except.ok.injEq, Prod.mk.injEq] at hw
    obtain ⟨rfl, rfl⟩ := hw
    exact ⟨.unknownMeta tb data _ hu (denotes_encVlq _) hlen, rfl, .none⟩
  | msg m =>
    obtain ⟨hv, hnr, hsx⟩ := hst
    by_cases hs : ∃ d, m = .sysex d
    · obtain ⟨d, rfl⟩ := hs
      cases hw
      exact ⟨.sysex d _ hv (denotes_encVlq _) (hsx d rfl), rfl, .none⟩
    · have hns := not_exists.mp hs
      obtain ⟨d, hen, hdd, hl⟩ := encode_fixed m hv hns
      rw [writeEvent_msg cs running m hns, hen, headD_cons, tail_cons] at hw
      cases hw
      refine ⟨?_, rfl, fun s hs => ?_⟩
      · split
        · rename_i hrun
          have := EncEv.running (cs := cs) (rs := running) m hv (hr _ hrun.symm).2 hrun.symm
          rwa [hen, tail_cons] at this
        · rw [← hen]
          exact .full m hv hnr hns
      · obtain ⟨rfl, hlt⟩ := rsAfter_msg hs
        exact ⟨(specLen_ge hl).1, hlt⟩

theorem writeEvents_enc (cs : Charset) (evs : List TEvent) : ∀ (running : Option Nat) (body : List Nat),
    (∀ e ∈ evs, StorableT cs e) → RunOK running → writeEvents cs running evs = .ok body →
    EncBody cs running (evs.map TEvent.toL) body := by
  induction evs with
  | nil => intro running body _ _ hw; cases hw; exact .nil running
  | cons e es ih =>
    intro running body hst hr hw
    obtain ⟨n, b, running', R, htime, -, hwe, hws, rfl⟩ := writeEvents_cons_ok hw
    rw [forall_mem_cons] at hst
    obtain ⟨henc, rfl, hr'⟩ := writeEvent_enc cs e.ev hst.1.1 hr hwe
    have htl : (TEvent.toL e).delta = n := by simp [TEvent.toL, htime]
    exact .cons running (TEvent.toL e) (encVlq n) b _ R (htl ▸ denotes_encVlq n) henc (ih _ R hst.2 hr' hws)

theorem writeTrack_enc (cs : Charset) (tr : List TEvent) (hst : ∀ e ∈ tr, StorableT cs e)
    (bytes : List Nat) (hw : writeTrack cs tr = .ok bytes) (hfit : bytes.length < 4294967296) :
    EncTrack cs (normTrack tr) bytes := by
  obtain ⟨fixed, hfix, hn, hfs, -⟩ := normTrack_eq cs tr hst
  obtain ⟨-, fixed', body, hfix', hb, rfl⟩ := writeTrack_ok hw
  cases hfix.symm.trans hfix'
  rw [hn]
  exact .mk _ body (writeEvents_enc cs fixed none body hfs .none hb)
    (by simp only [length_append] at hfit; omega)

theorem writeTracks_enc (cs : Charset) (trs : List (List TEvent)) :
    ∀ (bytes : List Nat), (∀ tr ∈ trs, ∀ e ∈ tr, StorableT cs e) →
    (∀ tr ∈ trs, ∀ b, writeTrack cs tr = .ok b → b.length < 4294967296) →
    writeTracks cs trs = .ok bytes → EncTracks cs (trs.map normTrack) bytes := by
  induction trs with
  | nil => intro bytes _ _ hw; cases hw; exact .nil
  | cons t ts ih =>
    intro bytes hst hfit hw
    obtain ⟨a, b, ha, hb, rfl⟩ := writeTracks_cons_ok hw
    rw [forall_mem_cons] at hst hfit
    exact .cons _ _ a b (writeTrack_enc cs t hst.1 a ha (hfit.1 a ha)) (ih b hst.2 hfit.2 hb)

theorem writeFile_enc (cs : Charset) (f : MFile) (hst : ∀ tr ∈ f.tracks, ∀ e ∈ tr, StorableT cs e)
    (hfit : ∀ tr ∈ f.tracks, ∀ b, writeTrack cs tr = .ok b → b.length < 4294967296)
    (bytes : List Nat) (hw : writeFile cs f = .ok bytes) :
    EncFile cs ⟨f.type, f.tpb, f.tracks.map normTrack⟩ bytes := by
  obtain ⟨a, b, c, body, ha, hb, hc, hbody, rfl⟩ := writeFile_ok hw
  obtain ⟨a1, a2, rfl, hsa⟩ := i16be_ok ha
  obtain ⟨b1, b2, rfl, hsb⟩ := i16be_ok hb
  obtain ⟨c1, c2, rfl, hsc⟩ := i16be_ok hc
  exact .mk ⟨f.type, f.tpb, f.tracks.map normTrack⟩ a1 a2 b1 b2 c1 c2 [] body
    hsa (by rwa [length_map]) hsc (by decide) (writeTracks_enc cs f.tracks body hst hfit hbody)

/-- **A whole track body through writer and reader**: the reader's event loop, which stops only
    when exactly `size` bytes have been consumed at an event boundary, returns exactly the events
    written. -/
theorem readEvents_write (cs : Charset) (evs : List TEvent) : ∀ (running last : Option Nat)
    (consumed fuel size : Nat) (body rest : List Nat),
    (∀ e ∈ evs, StorableT cs e) → Coupled running last → RunOK running →
    writeEvents cs running evs = .ok body → consumed + body.length = size → evs.length < fuel →
    readEvents cs false size fuel consumed last (body ++ rest) = .ok (evs.map TEvent.toL, rest) :=
  fun running last consumed fuel size body rest hst hc hr hw hsz hf =>
    readEvents_enc false (writeEvents_enc cs evs running body hst hr hw)
      last consumed fuel size rest hc hsz (by rwa [length_map])

/-- **One track chunk through writer and reader.** -/
theorem readTrack_write (cs : Charset) (tr : List TEvent) (hst : ∀ e ∈ tr, StorableT cs e)
    (bytes rest : List Nat) (hw : writeTrack cs tr = .ok bytes) (hfit : bytes.length < 4294967296) :
    ∃ fixed, fixEotEvents (.int 0) tr = .ok fixed ∧
      readTrack cs false (bytes ++ rest) = .ok (fixed.map TEvent.toL, rest) := by
  obtain ⟨fixed, hfix, hn, -⟩ := normTrack_eq cs tr hst
  exact ⟨fixed, hfix, hn ▸ readTrack_enc false (writeTrack_enc cs tr hst bytes hw hfit) rest⟩

end Mido
