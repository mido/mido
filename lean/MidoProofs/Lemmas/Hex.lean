import MidoModel.Codec
/-! `Message.hex()` and `Message.from_hex` (`bytearray.fromhex`): `toHex` with the default separator reads back byte for byte;
    what `toHex` prints and what `fromHex` can return. -/
namespace Mido

theorem hexVal_hexDigit : ∀ n : Fin 16, hexVal (hexDigit n.val) = some n.val := by decide
theorem hexDigit_ne_space : ∀ n : Fin 16, hexDigit n.val ≠ ' ' := by decide

theorem fromHex_space (rest : List Char) : fromHex (' ' :: rest) = fromHex rest := by rw [fromHex]
theorem fromHex_single (c : Char) (h : c ≠ ' ') : fromHex [c] = .error .ValueError := by
  rw [fromHex]
  exact h

theorem fromHex_pair (c d : Char) (rest : List Char) (h : c ≠ ' ') :
    fromHex (c :: d :: rest) = match hexVal c, hexVal d with
      | some x, some y => (fromHex rest).map ((16 * x + y) :: ·)
      | _, _ => .error .ValueError := by
  rw [fromHex]
  · rfl
  · exact h

theorem fromHex_hexByte (b : Nat) (hb : b < 256) (rest : List Char) :
    fromHex (hexByte b ++ rest) = (fromHex rest).map (b :: ·) := by
  have h1 : b / 16 < 16 := by omega
  have h2 : b % 16 < 16 := by omega
  rw [hexByte, List.cons_append, List.cons_append, List.nil_append,
    fromHex_pair _ _ _ (hexDigit_ne_space ⟨b / 16, h1⟩), hexVal_hexDigit ⟨b / 16, h1⟩, hexVal_hexDigit ⟨b % 16, h2⟩]
  simp only []
  rw [Nat.div_add_mod]

theorem fromHex_toHex_append (bs : List Nat) (hb : ∀ b ∈ bs, b < 256) (rest : List Char) :
    fromHex (toHex bs ++ rest) = (fromHex rest).map (bs ++ ·) := by
  induction bs using toHex.induct with
  | case1 =>
    rw [toHex, List.nil_append]
    cases fromHex rest <;> rfl
  | case2 b => exact fromHex_hexByte b (hb b List.mem_cons_self) rest
  | case3 b r hne ih =>
    obtain ⟨hb0, hbr⟩ := List.forall_mem_cons.mp hb
    rw [toHex.eq_3 b r hne, List.append_assoc, List.cons_append, fromHex_hexByte b hb0, fromHex_space, ih hbr]
    cases fromHex rest <;> rfl

theorem toHex_chars (bs : List Nat) (h : ∀ b ∈ bs, b < 256) :
    ∀ c ∈ toHex bs, c = ' ' ∨ ∃ n : Fin 16, c = hexDigit n.val := by
  induction bs with
  | nil => intro c hc; simp [toHex] at hc
  | cons b rest ih =>
    intro c hc
    obtain ⟨hb, hr⟩ := List.forall_mem_cons.mp h
    have hbyte : ∀ c ∈ hexByte b, ∃ n : Fin 16, c = hexDigit n.val :=
      List.forall_mem_cons.mpr ⟨⟨⟨b / 16, by omega⟩, rfl⟩, List.forall_mem_singleton.mpr ⟨⟨b % 16, by omega⟩, rfl⟩⟩
    cases rest with
    | nil => exact .inr (hbyte c hc)
    | cons b2 rest =>
      rcases List.mem_append.mp hc with hc | hc
      · exact .inr (hbyte c hc)
      · rcases List.mem_cons.mp hc with rfl | hc
        · exact .inl rfl
        · exact ih hr c hc

theorem hexVal_le {c : Char} {x : Nat} (h : hexVal c = some x) : x ≤ 15 := by
  revert h
  fun_cases hexVal c <;> intro h <;> cases h
  case case1 hc | case2 hc | case3 hc => have : c.toNat ≤ _ := hc.2; simp at this; omega

theorem fromHex_result (cs : List Char) :
    (∃ bs, fromHex cs = .ok bs ∧ ∀ b ∈ bs, b < 256) ∨ fromHex cs = .error .ValueError := by
  induction cs using fromHex.induct with
  | case1 => exact .inl ⟨[], rfl, by simp⟩
  | case2 rest ih => rw [fromHex_space]; exact ih
  | case3 a b rest hne x y hy hx ih =>
    rw [fromHex_pair a b rest hne, hx, hy]
    rcases ih with ⟨v, hv, hb⟩ | he
    · refine .inl ⟨_, by rw [hv]; rfl, fun c hc => ?_⟩
      rcases List.mem_cons.mp hc with rfl | hc
      · have := hexVal_le hx; have := hexVal_le hy; omega
      · exact hb c hc
    · exact .inr (by rw [he]; rfl)
  | case4 a b rest hne hno =>
    rw [fromHex_pair a b rest hne]
    refine .inr ?_
    split
    · next x y hx hy => exact (hno x y hx hy).elim
    · rfl
  | case5 a hne => exact .inr (fromHex_single a hne)

end Mido
