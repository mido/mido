import MidoModel.MsgObj
import MidoProofs.Lemmas.Except
/-! The message object model (`MsgObj.lean`) as the proofs use it: the type table checked once, and what each function does
    on each form of input. -/
namespace Mido
open List

theorem MType.mem_all (t : MType) : t ∈ MType.all := by cases t <;> decide

theorem MType.forall_of_all {P : MType → Prop} (h : ∀ t ∈ MType.all, P t) (t : MType) : P t := h t t.mem_all

theorem ofName_name : ∀ t : MType, MType.ofName t.name = some t := MType.forall_of_all (by decide +kernel)

theorem valueNames_nodup : ∀ t : MType, t.valueNames.Nodup := MType.forall_of_all (by decide +kernel)

theorem time_not_valueName : ∀ t : MType, "time" ∉ t.valueNames := MType.forall_of_all (by decide +kernel)

theorem data_only_sysex : ∀ t : MType, "data" ∈ t.valueNames → t = .sysex := MType.forall_of_all (by decide +kernel)

theorem valueNames_length (t : MType) : t = .sysex → t.valueNames.length = 1 := by
  rintro rfl
  rfl

theorem indexOfName_go_append (n : String) (pre suf : List String) (h : n ∉ pre) (k : Nat) :
    indexOfName.go n (pre ++ n :: suf) k = some (k + pre.length) := by
  induction pre generalizing k with
  | nil => simp [indexOfName.go]
  | cons x r ih =>
    obtain ⟨hx, hr⟩ := ne_and_not_mem_of_not_mem_cons h
    simp only [cons_append, indexOfName.go, beq_eq_false_iff_ne.mpr hx.symm, Bool.false_eq_true, if_false, ih hr, length_cons]
    congr 1; omega

theorem indexOfName_get {names : List String} {n : String} {i : Nat} (h : indexOfName names n = some i) :
    names[i]? = some n := by
  have gen : ∀ (l : List String) (k i : Nat), indexOfName.go n l k = some i → ∃ j, i = k + j ∧ l[j]? = some n := by
    intro l k
    fun_induction indexOfName.go n l k with
    | case1 => nofun
    | case2 x r k hx => rintro i ⟨⟩; exact ⟨0, rfl, by rw [beq_iff_eq.mp hx]; rfl⟩
    | case3 x r k hx ih =>
      intro i h
      obtain ⟨j, rfl, hj⟩ := ih i h
      exact ⟨j + 1, by omega, hj⟩
  obtain ⟨j, rfl, hj⟩ := gen names 0 i h
  rwa [Nat.zero_add]

theorem indexOfName_none {names : List String} {n : String} (h : n ∉ names) : indexOfName names n = none := by
  cases hi : indexOfName names n with
  | none => rfl
  | some i => exact absurd (mem_of_getElem? (indexOfName_get hi)) h

theorem indexOfName_sysex (n : String) :
    indexOfName MType.sysex.valueNames n = if "data" = n then some 0 else none := by
  simp only [MType.valueNames, indexOfName, indexOfName.go, beq_iff_eq]

theorem checkRange_int_err {k lo hi : Int} {e : Err} (h : checkRange (.int k) lo hi = .error e) : e = .ValueError := by
  simp only [checkRange] at h; split at h <;> cases h; rfl

theorem checkRange_ok_int {v : PyVal} {lo hi : Int} (h : checkRange v lo hi = .ok ()) : ∃ k, v = .int k := by
  cases v <;> simp [checkRange] at h
  exact ⟨_, rfl⟩

theorem checkAttr_range {n : String} (hd : n ≠ "data") (ht : n ≠ "time") :
    ∃ lo hi, ∀ v, checkAttr n v = checkRange v lo hi := by
  unfold checkAttr
  rw [beq_false_of_ne hd, beq_false_of_ne ht]
  cases n == "channel"
  case true => exact ⟨_, _, fun _ => rfl⟩
  cases n == "pitch"
  case true => exact ⟨_, _, fun _ => rfl⟩
  cases n == "pos"
  case true => exact ⟨_, _, fun _ => rfl⟩
  cases n == "frame_type"
  case true => exact ⟨_, _, fun _ => rfl⟩
  cases n == "frame_value" <;> exact ⟨_, _, fun _ => rfl⟩

theorem checkAttr_data (v : PyVal) : checkAttr "data" v = (iterItems v >>= checkDataItems) := rfl

theorem checkAttr_time (v : PyVal) :
    checkAttr "time" v = (match v with | .int _ | .flt _ => .ok () | _ => .error .TypeError) := rfl

theorem checkAttr_ok_int {n : String} {v : PyVal} (hnd : n ≠ "data") (hnt : n ≠ "time")
    (h : checkAttr n v = .ok ()) : ∃ k, v = .int k := by
  obtain ⟨lo, hi, hr⟩ := checkAttr_range hnd hnt
  exact checkRange_ok_int (hr v ▸ h)

theorem time_shape (tv : PyVal) (h : checkAttr "time" tv = .ok ()) : (∃ n, tv = .int n) ∨ (∃ x, tv = .flt x) := by
  rw [checkAttr_time] at h
  cases tv with
  | int n => exact .inl ⟨n, rfl⟩
  | flt x => exact .inr ⟨x, rfl⟩
  | _ => cases h

theorem checkDataItems_ok {xs : List Item} (h : checkDataItems xs = .ok ()) :
    ∃ ns : List Int, xs = ns.map Item.int := by
  induction xs with
  | nil => exact ⟨[], rfl⟩
  | cons x r ih =>
    obtain ⟨hx, hr⟩ := bind_ok.mp h
    obtain ⟨ns, rfl⟩ := ih hr
    cases x with
    | int k => exact ⟨k :: ns, rfl⟩
    | _ => cases hx

theorem iterItems_tuple (xs : List Item) : iterItems (.tuple xs) = .ok xs := rfl

theorem checkAttr_data_tuple {d : PyVal} {xs : List Item} (hi : iterItems d = .ok xs) :
    checkAttr "data" (.tuple xs) = checkAttr "data" d := by
  rw [checkAttr_data, checkAttr_data, hi, iterItems_tuple]

theorem checkVals_cons (n : String) (ns : List String) (v : PyVal) (vs : List PyVal) :
    checkVals (n :: ns) (v :: vs) = (checkAttr n v >>= fun _ => checkVals ns vs) := rfl

theorem checkVals_ok_iff {names : List String} {vals : List PyVal} :
    checkVals names vals = .ok () ↔ ∀ nv ∈ names.zip vals, checkAttr nv.1 nv.2 = .ok () := by
  induction names generalizing vals with
  | nil => exact ⟨fun _ => forall_mem_nil _, fun _ => rfl⟩
  | cons n ns ih =>
    cases vals with
    | nil => exact ⟨fun _ => forall_mem_nil _, fun _ => rfl⟩
    | cons v vs =>
      rw [checkVals_cons, zip_cons_cons, forall_mem_cons, ← ih]
      exact bind_ok

theorem checkVals_error_mem {names : List String} {vals : List PyVal} {e : Err}
    (h : checkVals names vals = .error e) : ∃ nv ∈ names.zip vals, checkAttr nv.1 nv.2 = .error e := by
  induction names generalizing vals with
  | nil => cases h
  | cons n ns ih =>
    cases vals with
    | nil => cases h
    | cons v vs =>
      rcases bind_eq_error.mp h with hc | ⟨_, _, h⟩
      · exact ⟨(n, v), mem_cons_self, hc⟩
      · obtain ⟨nv, hm, hc⟩ := ih h
        exact ⟨nv, mem_cons_of_mem _ hm, hc⟩

theorem forall_zip_set {P : String → PyVal → Prop} {names : List String} {vals : List PyVal} {i : Nat} {n : String}
    {v : PyVal} (h : ∀ nv ∈ names.zip vals, P nv.1 nv.2) (hi : names[i]? = some n) (hv : P n v) :
    ∀ nv ∈ names.zip (vals.set i v), P nv.1 nv.2 := by
  induction names generalizing vals i with
  | nil => cases hi
  | cons m ms ih =>
    cases vals with
    | nil => exact forall_mem_nil _
    | cons x xs =>
      rw [zip_cons_cons, forall_mem_cons] at h
      cases i with
      | zero => cases hi; exact forall_mem_cons.mpr ⟨hv, h.2⟩
      | succ j => exact forall_mem_cons.mpr ⟨h.1, ih h.2 hi⟩

theorem applyKw_length (t : MType) (kw : List (String × PyVal)) (vals : List PyVal) (time : PyVal) (unk : List String) :
    (applyKw t kw vals time unk).1.length = vals.length := by
  fun_induction applyKw t kw vals time unk with
  | case1 => rfl
  | case2 n v r vals time unk h ih | case4 n v r vals time unk h hi ih => exact ih
  | case3 n v r vals time unk h i hi ih => rw [ih, length_set]

theorem applyKw_append (t : MType) (a b : List (String × PyVal)) (v : List PyVal) (tm : PyVal) (u : List String) :
    applyKw t (a ++ b) v tm u =
      applyKw t b (applyKw t a v tm u).1 (applyKw t a v tm u).2.1 (applyKw t a v tm u).2.2 := by
  fun_induction applyKw t a v tm u with
  | case1 => rfl
  | case2 n v r vals time unk h ih => rw [cons_append, applyKw, if_pos h, ih]
  | case3 n v r vals time unk h i hi ih | case4 n v r vals time unk h hi ih =>
    rw [cons_append, applyKw, if_neg h]; simp only [hi, ih]

theorem applyKw_unk (t : MType) (kw : List (String × PyVal)) (v : List PyVal) (tm : PyVal) (u : List String) :
    (applyKw t kw v tm u).2.2 =
      u ++ (kw.map (·.1)).filter fun n => n != "time" && (indexOfName t.valueNames n).isNone := by
  fun_induction applyKw t kw v tm u with
  | case1 => exact (append_nil _).symm
  | case2 n v r vals time unk h ih => rw [ih, map_cons, filter_cons, beq_iff_eq.mp h]; rfl
  | case3 n v r vals time unk h i hi ih => rw [ih, map_cons, filter_cons, hi]; simp
  | case4 n v r vals time unk h hi ih =>
    have hn : n ≠ "time" := fun e => h (beq_iff_eq.mpr e)
    rw [ih, map_cons, filter_cons, hi]; simp [hn]

/-- the names `pre` are done; the names `suf` fill the remaining slots `s` with `vs` -/
theorem applyKw_zip (t : MType) (tm : PyVal) (unk : List String) :
    ∀ (suf pre : List String) (vs p s : List PyVal), t.valueNames = pre ++ suf → p.length = pre.length →
      s.length = suf.length → vs.length = suf.length →
      applyKw t (suf.zip vs) (p ++ s) tm unk = (p ++ vs, tm, unk) := by
  intro suf
  induction suf with
  | nil => intro pre vs p s _ _ hs hvs; simp [length_eq_zero_iff.mp hs, length_eq_zero_iff.mp hvs, applyKw]
  | cons n suf ih =>
    intro pre vs p s hn hp hs hvs
    obtain ⟨v, vs, rfl⟩ := exists_cons_of_length_eq_add_one hvs
    obtain ⟨x, s, rfl⟩ := exists_cons_of_length_eq_add_one hs
    have hnt := beq_false_of_ne fun e : n = "time" => time_not_valueName t (e ▸ hn ▸ mem_append_right _ mem_cons_self)
    have hpre : n ∉ pre := fun m => (nodup_append.mp (hn ▸ valueNames_nodup t)).2.2 _ m _ mem_cons_self rfl
    have hidx : indexOfName t.valueNames n = some p.length := by
      rw [indexOfName, hn, indexOfName_go_append n pre suf hpre, hp, Nat.zero_add]
    simp only [zip_cons_cons, applyKw, hnt, Bool.false_eq_true, if_false, hidx]
    simpa using ih (pre ++ [n]) vs (p ++ [v]) s (by simp [hn]) (by simp [hp]) (Nat.succ.inj hs) (Nat.succ.inj hvs)

theorem normData_nonsysex (t : MType) (h : t ≠ .sysex) (v : List PyVal) : normData t v = .ok v := by
  unfold normData
  split
  · exact absurd rfl h
  · rfl

theorem normData_sysex (d : PyVal) : normData .sysex [d] = (iterItems d).map fun xs => [.tuple xs] := rfl

theorem normData_ok {t : MType} {vals vals' : List PyVal} (hl : vals.length = t.valueNames.length)
    (h : normData t vals = .ok vals') :
    (t = .sysex ∧ ∃ d xs, vals = [d] ∧ iterItems d = .ok xs ∧ vals' = [.tuple xs]) ∨ (t ≠ .sysex ∧ vals' = vals) := by
  by_cases hs : t = .sysex
  · subst hs
    obtain ⟨d, rfl⟩ := length_eq_one_iff.mp hl
    rw [normData_sysex] at h
    obtain ⟨xs, hi, rfl⟩ := map_eq_ok.mp h
    exact .inl ⟨rfl, d, xs, rfl, hi, rfl⟩
  · rw [normData_nonsysex t hs] at h; cases h; exact .inr ⟨hs, rfl⟩

theorem checkVals_normData {t : MType} {vals vals' : List PyVal} (hl : vals.length = t.valueNames.length)
    (h : normData t vals = .ok vals') : checkVals t.valueNames vals' = checkVals t.valueNames vals := by
  rcases normData_ok hl h with ⟨rfl, d, xs, rfl, hi, rfl⟩ | ⟨_, rfl⟩
  · rw [MType.valueNames, checkVals_cons, checkVals_cons, checkAttr_data_tuple hi]
  · rfl

theorem checkAll_ok {t : MType} {vals : List PyVal} {time : PyVal} {unk : List String}
    (h : checkAll t vals time unk = .ok ()) :
    checkAttr "time" time = .ok () ∧ checkVals t.valueNames vals = .ok () ∧ unk = [] := by
  obtain ⟨h1, h⟩ := bind_ok.mp h
  obtain ⟨h2, h⟩ := bind_ok.mp h
  cases unk with
  | nil => exact ⟨h1, h2, rfl⟩
  | cons a b => cases h

theorem valid_iff {o : MObj} : o.valid = true ↔
    o.vals.length = o.type.valueNames.length ∧ checkAttr "time" o.time = .ok () ∧
    checkVals o.type.valueNames o.vals = .ok () ∧ (o.type = .sysex → ∃ xs, o.vals = [.tuple xs]) := by
  unfold MObj.valid
  simp only [Bool.and_eq_true, beq_iff_eq, and_assoc]
  refine and_congr_right fun _ => and_congr ?_ (and_congr ?_ ?_)
  · cases checkAttr "time" o.time <;> simp
  · cases checkVals o.type.valueNames o.vals <;> simp
  · split <;> simp_all

theorem normData_valid {t : MType} {vals vals' : List PyVal} {time : PyVal} (hl : vals.length = t.valueNames.length)
    (hn : normData t vals = .ok vals') (h1 : checkAttr "time" time = .ok ())
    (h2 : checkVals t.valueNames vals' = .ok ()) : (⟨t, vals', time⟩ : MObj).valid = true := by
  rcases normData_ok hl hn with ⟨rfl, d, xs, rfl, _, rfl⟩ | ⟨hs, rfl⟩
  · exact valid_iff.mpr ⟨rfl, h1, h2, fun _ => ⟨xs, rfl⟩⟩
  · exact valid_iff.mpr ⟨hl, h1, h2, fun h => absurd h hs⟩

/-- the model's `let (vals, time, unk) := …` written with projections, so that `bind_eq_ok` can take the block apart -/
theorem construct_of {ty : String} {t : MType} (ht : MType.ofName ty = some t) (kw : List (String × PyVal)) :
    construct ty kw = (do
      let r := applyKw t kw (t.valueNames.map defaultOf) (.int 0) []
      let vals' ← normData t r.1
      checkAll t vals' r.2.1 r.2.2
      pure ⟨t, vals', r.2.1⟩) := by
  rw [construct, ht]

theorem construct_zip (t : MType) (vs : List PyVal) (tm : PyVal) (kw : List (String × PyVal))
    (hl : vs.length = t.valueNames.length) :
    construct t.name (t.valueNames.zip vs ++ [("time", tm)] ++ kw) = (do
      let r := applyKw t kw vs tm []
      let vals' ← normData t r.1
      checkAll t vals' r.2.1 r.2.2
      pure ⟨t, vals', r.2.1⟩) := by
  -- no name done yet; the slots are the defaults
  have h := applyKw_zip t (.int 0) [] (suf := t.valueNames) (pre := []) (vs := vs) (p := [])
    (s := t.valueNames.map defaultOf) rfl rfl (length_map _) hl
  rw [nil_append, nil_append] at h
  rw [construct_of (ofName_name t)]
  simp only [applyKw_append, h]
  rfl

/-- `overrides['data'] = tuple(overrides['data'])`: the anonymous function of `copyObj.copyCore`, named -/
def tupleData (nv : String × PyVal) : Except Err (String × PyVal) :=
  if nv.1 == "data" then (iterItems nv.2).map (fun xs => (nv.1, PyVal.tuple xs)) else pure nv

/-- as `construct_of`.  Trap: `copy` checks, then normalises (`check_msgdict`, then the constructor builds `SysexData`);
    `__init__` normalises first -/
theorem copyCore_eq (o : MObj) (kw : List (String × PyVal)) :
    copyObj.copyCore o kw = (do
      let kw' ← kw.mapM tupleData
      let r := applyKw o.type kw' o.vals o.time []
      checkAll o.type r.1 r.2.1 r.2.2
      let vals' ← normData o.type r.1
      pure ⟨o.type, vals', r.2.1⟩) := rfl

end Mido
