/-! `do` blocks in `Except`, read backwards; lists of a known short length. -/
namespace Mido

theorem bind_eq_ok {ε α β} {x : Except ε α} {f : α → Except ε β} {b : β} :
    (x >>= f) = .ok b ↔ ∃ a, x = .ok a ∧ f a = .ok b := by
  cases x <;> simp [bind, Except.bind]

theorem bind_eq_error {ε α β} {x : Except ε α} {f : α → Except ε β} {e : ε} :
    (x >>= f) = .error e ↔ x = .error e ∨ ∃ a, x = .ok a ∧ f a = .error e := by
  cases x <;> simp [bind, Except.bind]

theorem map_eq_ok {ε α β} {x : Except ε α} {f : α → β} {b : β} : x.map f = .ok b ↔ ∃ a, x = .ok a ∧ f a = b := by
  cases x <;> simp [Except.map]

theorem map_eq_error {ε α β} {x : Except ε α} {f : α → β} {e : ε} : x.map f = .error e ↔ x = .error e := by
  cases x <;> simp [Except.map]

theorem guard_eq_ok {ε α} {c : Prop} [Decidable c] {e : ε} {x : Except ε α} {r : α}
    (h : (if c then .error e else x) = .ok r) : ¬ c ∧ x = .ok r := by
  split at h
  · cases h
  · exact ⟨‹_›, h⟩

theorem bind_ok {ε α} {x : Except ε Unit} {y : Except ε α} {r : α} :
    (do x; y) = .ok r ↔ x = .ok () ∧ y = .ok r :=
  bind_eq_ok.trans ⟨fun ⟨(), h⟩ => h, fun h => ⟨(), h⟩⟩

theorem ok_bind {ε α β} (a : α) (f : α → Except ε β) : (Except.ok a >>= f) = f a := rfl

theorem ite_bind {ε α β} (c : Prop) [Decidable c] (x y : Except ε α) (k : α → Except ε β) :
    (if c then x else y) >>= k = if c then x >>= k else y >>= k := by
  split <;> rfl

theorem length_two {α} {l : List α} (h : l.length = 2) : ∃ a b, l = [a, b] :=
  match l, h with
  | [a, b], _ => ⟨a, b, rfl⟩

theorem length_four {α} {l : List α} (h : l.length = 4) : ∃ a b c d, l = [a, b, c, d] :=
  match l, h with
  | [a, b, c, d], _ => ⟨a, b, c, d, rfl⟩

theorem length_six {α} {l : List α} (h : l.length = 6) : ∃ a b c d e f, l = [a, b, c, d, e, f] :=
  match l, h with
  | [a, b, c, d, e, f], _ => ⟨a, b, c, d, e, f, rfl⟩

end Mido
