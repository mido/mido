import MidoModel.Vlq
import MidoProofs.Spec.Vlq
/-! Variable-length quantities: the writer's digits denote the number (`VlqDenotes`, Spec/Vlq.lean), hence are read back
    and have the shape `VlqShape`; and are the shortest spelling. -/
namespace Mido

theorem readVlqAcc_denotes {d : List Nat} {acc n : Nat} (h : VlqDenotes d acc n) (rest : List Nat) :
    readVlqAcc acc (d ++ rest) = .ok (n, rest) := by
  induction h with
  | last acc b hb => rw [List.singleton_append, readVlqAcc, if_pos hb, Nat.mod_eq_of_lt hb]
  | cont acc b r n h1 h2 _ ih =>
    rw [List.cons_append, readVlqAcc, if_neg (Nat.not_lt.mpr h1)]
    exact ih

theorem readVlq_denotes {d : List Nat} {n : Nat} (h : VlqDenotes d 0 n) (rest : List Nat) :
    readVlq (d ++ rest) = .ok (n, rest) := readVlqAcc_denotes h rest

open List in
theorem readVlqAcc_suffix {bs : List Nat} {acc v : Nat} {r : List Nat} :
    readVlqAcc acc bs = .ok (v, r) → r <:+ bs ∧ r.length < bs.length := by
  fun_induction readVlqAcc acc bs <;> intro h
  · cases h
  · injections; subst_vars; exact ⟨suffix_cons _ _, Nat.lt_succ_self _⟩
  · rename_i ih
    exact (ih h).imp (·.trans (suffix_cons _ _)) Nat.lt_succ_of_lt

theorem encVlqAux_denotes {hi : Nat} {tail : List Nat} {n : Nat} (h : VlqDenotes tail hi n) :
    VlqDenotes (encVlqAux hi tail) 0 n := by
  fun_induction encVlqAux hi tail with
  | case1 tail => exact h
  | case2 m tail ih =>
    refine ih (.cont _ _ _ n (Nat.le_add_left _ _) (Nat.add_lt_add_right (Nat.mod_lt _ (by decide)) 128) ?_)
    rwa [Nat.add_mod_right, Nat.mod_mod, Nat.div_add_mod']

theorem denotes_encVlq (v : Nat) : VlqDenotes (encVlq v) 0 v := by
  have := VlqDenotes.last (v / 128) (v % 128) (Nat.mod_lt _ (by decide))
  rw [Nat.div_add_mod'] at this
  exact encVlqAux_denotes this

theorem readVlq_encVlq (v : Nat) (rest : List Nat) : readVlq (encVlq v ++ rest) = .ok (v, rest) :=
  readVlq_denotes (denotes_encVlq v) rest

/-- shape of an encoded quantity: continuation bytes ≥ 0x80 then one byte < 0x80; all bytes < 256 -/
def VlqShape : List Nat → Prop
  | [] => False
  | [b] => b < 128
  | b :: r => 128 ≤ b ∧ b < 256 ∧ VlqShape r

theorem VlqDenotes.shape {d : List Nat} {acc n : Nat} (h : VlqDenotes d acc n) : VlqShape d := by
  induction h with
  | last acc b hb => exact hb
  | cont acc b r n h1 h2 hr ih => cases hr <;> exact ⟨h1, h2, ih⟩

theorem VlqShape.bytes : ∀ {l : List Nat}, VlqShape l → ∀ b ∈ l, b < 256
  | [_], h => List.forall_mem_singleton.mpr (Nat.lt_trans h (by decide))
  | _ :: _ :: _, h => List.forall_mem_cons.mpr ⟨h.2.1, VlqShape.bytes h.2.2⟩

theorem encVlq_shape (v : Nat) : VlqShape (encVlq v) := (denotes_encVlq v).shape

theorem encVlqAux_head {hi : Nat} {tail : List Nat} (h : hi = 0 → ∃ b r, tail = b :: r ∧ (r ≠ [] → b ≠ 0x80)) :
    ∃ b r, encVlqAux hi tail = b :: r ∧ (r ≠ [] → b ≠ 0x80) := by
  fun_induction encVlqAux hi tail with
  | case1 tail => exact h rfl
  | case2 n tail ih => exact ih fun hz => ⟨_, _, rfl, fun _ => by omega⟩

theorem encVlq_minimal (v : Nat) : ∃ b r, encVlq v = b :: r ∧ (r ≠ [] → b ≠ 0x80) :=
  encVlqAux_head fun _ => ⟨_, _, rfl, fun h => absurd rfl h⟩

end Mido
