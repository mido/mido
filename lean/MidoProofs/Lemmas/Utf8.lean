import MidoModel.Meta
/-! UTF-8 encoding and strict decoding of the model are inverse to each other; with them `encodeText`/`decodeText`
    under each charset. -/
namespace Mido
open List

theorem isCont_iff {b : Nat} : isCont b = true ↔ 0x80 ≤ b ∧ b < 0xC0 := by
  simp only [isCont, Bool.and_eq_true, decide_eq_true_eq]

theorem isCont_elim {b : Nat} (h : isCont b = true) : ∃ x, x < 64 ∧ b = 0x80 + x := by
  obtain ⟨h1, h2⟩ := isCont_iff.mp h
  exact ⟨b - 0x80, by omega, by omega⟩

theorem isCont_digit (x : Nat) : isCont (0x80 + x % 64) = true :=
  isCont_iff.mpr (by omega)

theorem digits2 (a x : Nat) (hx : x < 64) : (a * 64 + x) / 64 = a ∧ (a * 64 + x) % 64 = x := by omega
theorem digits3 (a x y : Nat) (hx : x < 64) (hy : y < 64) :
    (a * 4096 + x * 64 + y) / 4096 = a ∧ (a * 4096 + x * 64 + y) / 64 % 64 = x ∧ (a * 4096 + x * 64 + y) % 64 = y := by omega
theorem digits4 (a x y z : Nat) (hx : x < 64) (hy : y < 64) (hz : z < 64) :
    (a * 262144 + x * 4096 + y * 64 + z) / 262144 = a ∧ (a * 262144 + x * 4096 + y * 64 + z) / 4096 % 64 = x ∧
    (a * 262144 + x * 4096 + y * 64 + z) / 64 % 64 = y ∧ (a * 262144 + x * 4096 + y * 64 + z) % 64 = z := by omega

theorem ofDigits3 (c : Nat) : c / 4096 * 4096 + c / 64 % 64 * 64 + c % 64 = c := by omega
theorem ofDigits4 (c : Nat) : c / 262144 * 262144 + c / 4096 % 64 * 4096 + c / 64 % 64 * 64 + c % 64 = c := by omega

theorem utf8Decode_cp {c : Nat} {bs : List Nat} (h : utf8EncodeCp c = some bs) :
    (∀ b ∈ bs, b < 256) ∧ ∀ rest, utf8Decode (bs ++ rest) = (utf8Decode rest).map (c :: ·) := by
  revert h
  fun_cases utf8EncodeCp c <;> intro h <;> cases h
  -- one case per length; in each the bytes are below 256 by their ranges, and the decoder is unfolded once
  all_goals
    refine ⟨by simp only [mem_cons, not_mem_nil, or_false, forall_eq_or_imp, forall_eq]; omega, fun rest => ?_⟩
    simp only [cons_append, nil_append]
    conv => lhs; unfold utf8Decode
  · rw [if_pos ‹_›]
  · -- two bytes: lead byte in [0xC2, 0xE0)
    rw [if_neg (by omega), if_neg (by omega), if_pos (by omega)]
    simp only [Nat.add_sub_cancel_left, Nat.div_add_mod', isCont_digit, if_true]
  · -- three bytes: lead byte in [0xE0, 0xF0)
    rw [if_neg (by omega), if_neg (by omega), if_neg (by omega), if_pos (by omega)]
    simp only [Nat.add_sub_cancel_left, ofDigits3, isCont_digit, Bool.true_and]
    rw [if_pos (by simp only [Bool.and_eq_true, decide_eq_true_eq, Bool.not_eq_true', Bool.and_eq_false_iff,
      decide_eq_false_iff_not]; omega)]
  · -- four bytes: lead byte in [0xF0, 0xF5)
    rw [if_neg (by omega), if_neg (by omega), if_neg (by omega), if_neg (by omega), if_pos (by omega)]
    simp only [Nat.add_sub_cancel_left, ofDigits4, isCont_digit, Bool.true_and]
    rw [if_pos (by simp only [Bool.and_eq_true, decide_eq_true_eq]; omega)]

theorem encCp1 {b : Nat} (h : b < 128) : utf8EncodeCp b = some [b] := if_pos h

/-! `encCp k`: hypotheses as `fun_induction utf8Decode` hands them over, in decimal: 194 = 0xC2, 224 = 0xE0, 240 = 0xF0,
    245 = 0xF5, 2048 = 0x800, 55296..57343 the surrogates, 65536 = 0x10000, 1114112 = 0x110000. -/

theorem encCp2 {b c1 : Nat} (h1 : ¬ b < 194) (h2 : b < 224) (hc : isCont c1 = true) :
    utf8EncodeCp ((b - 0xC0) * 64 + (c1 - 0x80)) = some [b, c1] := by
  obtain ⟨a, rfl⟩ := Nat.exists_eq_add_of_le (show 0xC0 ≤ b by omega)
  obtain ⟨x, hx, rfl⟩ := isCont_elim hc
  obtain ⟨e1, e2⟩ := digits2 a x hx
  simp only [Nat.add_sub_cancel_left]
  generalize a * 64 + x = c at e1 e2
  rw [utf8EncodeCp, if_neg (by omega), if_pos (by omega), e1, e2]

theorem encCp3 {b c1 c2 : Nat} (h1 : ¬ b < 224) (h2 : b < 240)
    (hc : (isCont c1 && isCont c2 && decide (2048 ≤ (b - 224) * 4096 + (c1 - 128) * 64 + (c2 - 128)) &&
      !(decide (55296 ≤ (b - 224) * 4096 + (c1 - 128) * 64 + (c2 - 128)) &&
        decide ((b - 224) * 4096 + (c1 - 128) * 64 + (c2 - 128) ≤ 57343))) = true) :
    utf8EncodeCp ((b - 224) * 4096 + (c1 - 128) * 64 + (c2 - 128)) = some [b, c1, c2] := by
  simp only [Bool.and_eq_true, decide_eq_true_eq, Bool.not_eq_true', Bool.and_eq_false_iff,
    decide_eq_false_iff_not] at hc
  obtain ⟨⟨⟨k1, k2⟩, lo⟩, sur⟩ := hc
  obtain ⟨a, rfl⟩ := Nat.exists_eq_add_of_le (Nat.le_of_not_lt h1)
  obtain ⟨x, hx, rfl⟩ := isCont_elim k1
  obtain ⟨y, hy, rfl⟩ := isCont_elim k2
  simp only [Nat.add_sub_cancel_left] at lo sur ⊢
  obtain ⟨e1, e2, e3⟩ := digits3 a x y hx hy
  generalize a * 4096 + x * 64 + y = c at lo sur e1 e2 e3
  rw [utf8EncodeCp, if_neg (by omega), if_neg (by omega), if_neg (by omega), if_pos (by omega), e1, e2, e3]

theorem encCp4 {b c1 c2 c3 : Nat} (h1 : ¬ b < 240)
    (hc : (isCont c1 && isCont c2 && isCont c3 &&
      decide (65536 ≤ (b - 240) * 262144 + (c1 - 128) * 4096 + (c2 - 128) * 64 + (c3 - 128)) &&
      decide ((b - 240) * 262144 + (c1 - 128) * 4096 + (c2 - 128) * 64 + (c3 - 128) < 1114112)) = true) :
    utf8EncodeCp ((b - 240) * 262144 + (c1 - 128) * 4096 + (c2 - 128) * 64 + (c3 - 128)) = some [b, c1, c2, c3] := by
  simp only [Bool.and_eq_true, decide_eq_true_eq] at hc
  obtain ⟨⟨⟨⟨k1, k2⟩, k3⟩, lo⟩, hi⟩ := hc
  obtain ⟨a, rfl⟩ := Nat.exists_eq_add_of_le (Nat.le_of_not_lt h1)
  obtain ⟨x, hx, rfl⟩ := isCont_elim k1
  obtain ⟨y, hy, rfl⟩ := isCont_elim k2
  obtain ⟨z, hz, rfl⟩ := isCont_elim k3
  simp only [Nat.add_sub_cancel_left] at lo hi ⊢
  obtain ⟨e1, e2, e3, e4⟩ := digits4 a x y z hx hy hz
  generalize a * 262144 + x * 4096 + y * 64 + z = c at lo hi e1 e2 e3 e4
  rw [utf8EncodeCp, if_neg (by omega), if_neg (by omega), if_neg (by omega), if_neg (by omega), if_pos hi, e1, e2, e3, e4]

theorem mapM_cons_eq_some {α β} {f : α → Option β} {a : α} {l : List α} {r : List β} :
    (a :: l).mapM f = some r ↔ ∃ b, f a = some b ∧ ∃ bs, l.mapM f = some bs ∧ b :: bs = r := by
  simp only [mapM_cons, Option.bind_eq_bind, Option.bind_eq_some_iff, Option.pure_def, Option.some.injEq]

theorem utf8_enc_dec {s : List Nat} {bss : List (List Nat)} (h : s.mapM utf8EncodeCp = some bss) :
    utf8Decode bss.flatten = some s ∧ ∀ b ∈ bss.flatten, b < 256 := by
  induction s generalizing bss with
  | nil => cases h; exact ⟨rfl, forall_mem_nil _⟩
  | cons c s ih =>
    obtain ⟨b, hb, bs, hl, rfl⟩ := mapM_cons_eq_some.mp h
    obtain ⟨ih1, ih2⟩ := ih hl
    obtain ⟨hb1, hb2⟩ := utf8Decode_cp hb
    exact ⟨by rw [flatten_cons, hb2, ih1]; rfl, forall_mem_append.mpr ⟨hb1, ih2⟩⟩

theorem utf8_dec_enc (bs : List Nat) : ∀ (s : List Nat), utf8Decode bs = some s →
    ∃ bss, s.mapM utf8EncodeCp = some bss ∧ bss.flatten = bs := by
  have step : ∀ {pre r : List Nat} {c : Nat} {s : List Nat}, utf8EncodeCp c = some pre →
      (∀ t, utf8Decode r = some t → ∃ bss, t.mapM utf8EncodeCp = some bss ∧ bss.flatten = r) →
      (utf8Decode r).map (c :: ·) = some s → ∃ bss, s.mapM utf8EncodeCp = some bss ∧ bss.flatten = pre ++ r := by
    intro pre r c s hc ih h
    obtain ⟨t, ht, rfl⟩ := Option.map_eq_some_iff.mp h
    obtain ⟨bss, h1, rfl⟩ := ih t ht
    exact ⟨pre :: bss, mapM_cons_eq_some.mpr ⟨pre, hc, bss, h1, rfl⟩, rfl⟩
  fun_induction utf8Decode bs with
  | case1 => intro s h; cases h; exact ⟨[], rfl, rfl⟩
  -- accepting branches: ASCII, then two, three, four bytes
  | case2 b rest hb ih => exact fun s => step (encCp1 hb) ih
  | case4 b h0 h1 h2 c1 r hc ih => exact fun s => step (encCp2 h1 h2 hc) ih
  | case7 b h0 h1 h2 h3 c1 c2 r cp hc ih => exact fun s => step (encCp3 h2 h3 hc) ih
  | case10 b h0 h1 h2 h3 h4 c1 c2 c3 r cp hc ih => exact fun s => step (encCp4 h3 hc) ih
  | case3 | case5 | case6 | case8 | case9 | case11 | case12 | case13 => intro s h; cases h

theorem encodeText_decodeText {cs : Charset} {s p : List Nat} (h : encodeText cs s = .ok p) :
    (∀ b ∈ p, b < 256) ∧ decodeText cs p = .ok s := by
  cases cs <;> simp only [encodeText] at h <;> split at h <;> cases h <;> rename_i ha
  · exact ⟨fun b hb => of_decide_eq_true (all_eq_true.mp ha b hb), rfl⟩
  · exact ⟨fun b hb => Nat.lt_trans (of_decide_eq_true (all_eq_true.mp ha b hb)) (by decide), if_pos ha⟩
  · obtain ⟨h1, h2⟩ := utf8_enc_dec ha
    exact ⟨h2, by simp only [decodeText, h1]⟩

/-- `hb`: the latin1 decoder accepts any list, its encoder tests `< 256` -/
theorem decodeText_encodeText {cs : Charset} {bs s : List Nat} (hb : cs = .latin1 → ∀ b ∈ bs, b < 256)
    (h : decodeText cs bs = .ok s) : encodeText cs s = .ok bs := by
  revert h
  fun_cases decodeText cs bs <;> intro h <;> cases h
  · exact if_pos (all_eq_true.mpr fun b hm => decide_eq_true (hb rfl b hm))
  · exact if_pos ‹_›
  · obtain ⟨bss, h1, h2⟩ := utf8_dec_enc bs s ‹_›
    simp only [encodeText, h1, h2]

end Mido
