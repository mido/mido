import MidoModel.Numeral
/-! Decimal numerals: `int(str(n)) == n`, and the characters a numeral is made of. -/
namespace Mido
open List

theorem digitChar_spec {k : Nat} (hk : k < 10) : isDigit (digitChar k) = true ∧ (digitChar k).toNat - 48 = k :=
  (by decide : ∀ k : Fin 10, isDigit (digitChar k.val) = true ∧ (digitChar k.val).toNat - 48 = k.val) ⟨k, hk⟩

theorem parseNatAcc_digitsAux (n : Nat) (acc : List Char) :
    parseNatAcc 0 (digitsAux n acc) = parseNatAcc n acc := by
  fun_induction digitsAux n acc with
  | case1 acc => rfl
  | case2 n acc ih =>
    have hd := digitChar_spec (Nat.mod_lt (n + 1) (by decide : 0 < 10))
    rw [ih, parseNatAcc, if_pos hd.1, hd.2, Nat.div_add_mod']

theorem digitsAux_ne_nil (n : Nat) (acc : List Char) (h : 0 < n ∨ acc ≠ []) : digitsAux n acc ≠ [] := by
  fun_induction digitsAux n acc with
  | case1 acc => exact h.resolve_left (Nat.lt_irrefl 0)
  | case2 n acc ih => exact ih (.inr (cons_ne_nil _ _))

theorem digitsAux_digits (n : Nat) (acc : List Char) (ha : ∀ c ∈ acc, isDigit c = true) :
    ∀ c ∈ digitsAux n acc, isDigit c = true := by
  fun_induction digitsAux n acc with
  | case1 acc => exact ha
  | case2 n acc ih =>
    exact ih (forall_mem_cons.mpr ⟨(digitChar_spec (Nat.mod_lt _ (by decide))).1, ha⟩)

theorem digit_range (c : Char) (h : isDigit c = true) : 48 ≤ c.toNat ∧ c.toNat ≤ 57 := by
  simp only [isDigit, Bool.and_eq_true, decide_eq_true_eq] at h
  exact h

theorem digit_ne (c : Char) (h : isDigit c = true) (d : Char) (hd : d.toNat < 48 ∨ 57 < d.toNat) : c ≠ d := by
  rintro rfl
  have := digit_range c h
  omega

theorem showNat_ne_nil (n : Nat) : showNat n ≠ [] := by
  unfold showNat
  split
  · exact cons_ne_nil _ _
  · exact digitsAux_ne_nil n [] (.inl (by omega))

/-- all characters of a numeral are digits (in particular no ':' and no '-') -/
theorem showNat_digits (n : Nat) : ∀ c ∈ showNat n, isDigit c = true := by
  unfold showNat
  split
  · decide
  · exact digitsAux_digits n [] (forall_mem_nil _)

theorem parseNat_of_ne_nil {cs : List Char} (h : cs ≠ []) : parseNat cs = parseNatAcc 0 cs := by
  rw [parseNat, if_neg (by rwa [isEmpty_iff])]

/-- `int(str(n)) == n` on naturals -/
theorem parseNat_showNat (n : Nat) : parseNat (showNat n) = some n := by
  rw [parseNat_of_ne_nil (showNat_ne_nil n), showNat]
  split
  · subst n
    rfl
  · rw [parseNatAcc_digitsAux]
    rfl

theorem showNat_cons (n : Nat) (rest : List Char) : ∃ c r, showNat n ++ rest = c :: r ∧ isDigit c = true := by
  cases hs : showNat n with
  | nil => exact absurd hs (showNat_ne_nil n)
  | cons c r => exact ⟨c, r ++ rest, rfl, showNat_digits n c (hs ▸ mem_cons_self)⟩

theorem parseInt_digit {s : List Char} (h : ∃ c r, s = c :: r ∧ isDigit c = true) :
    parseInt s = (parseNat s).map (fun n => (n : Int)) := by
  obtain ⟨c, r, rfl, hc⟩ := h
  unfold parseInt
  split
  · cases (cons.inj ‹_›).1
    cases hc
  · rfl

/-- `int(str(i)) == i` on all integers -/
theorem parseInt_showInt (i : Int) : parseInt (showInt i) = some i := by
  cases i with
  | ofNat n =>
    rw [showInt, parseInt_digit (append_nil (showNat n) ▸ showNat_cons n []), parseNat_showNat]
    rfl
  | negSucc n =>
    simp only [showInt, parseInt, parseNat_showNat]
    rfl

theorem showInt_chars (i : Int) : ∀ c ∈ showInt i, isDigit c = true ∨ c = '-' := by
  cases i with
  | ofNat n => exact fun c hc => .inl (showNat_digits n c hc)
  | negSucc n => exact forall_mem_cons.mpr ⟨.inr rfl, fun c hc => .inl (showNat_digits _ c hc)⟩

theorem showInt_ne_nil (i : Int) : showInt i ≠ [] := by
  cases i with
  | ofNat n => exact showNat_ne_nil n
  | negSucc n => simp [showInt]

end Mido
