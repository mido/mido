import MidoProofs.Lemmas.PortSeq
/-! Iteration over a device port whose device closes itself at any point (C11). -/
namespace Mido
open List

/-- everything the port holds or its device will still deliver -/
def Port.pendingAll (p : Port) : List Nat := p.queue ++ p.script.flatMap (·.1)

/-- the device is closed or one of the steps it will still take closes it -/
def Port.willClose (p : Port) : Prop := p.closed = true ∨ ∃ st ∈ p.script, st.2 = true

/-- `p'` is a later state of the device port `p`, after `out` has been handed out -/
structure Port.Later (p p' : Port) (out : List Nat) : Prop where
  kind : p'.kind = .dev
  conserve : out ++ p'.pendingAll = p.pendingAll
  willClose : p.willClose → p'.willClose

theorem Port.Later.refl {p : Port} (hk : p.kind = .dev) : p.Later p [] := ⟨hk, rfl, id⟩

theorem Port.Later.trans {p p' p'' : Port} {o o' : List Nat} (a : p.Later p' o) (b : p'.Later p'' o') :
    p.Later p'' (o ++ o') :=
  ⟨b.kind, by rw [append_assoc, b.conserve, a.conserve], b.willClose ∘ a.willClose⟩

theorem envStep_later (p : Port) (hk : p.kind = .dev) : p.Later p.envStep [] := by
  fun_cases Port.envStep p
  · next arr rest _ p1 hs =>
    have h := close_keeps p1
    exact ⟨h.1.trans hk, by simp [Port.pendingAll, h.2.1, h.2.2.2 hk, hs, p1], fun _ => .inl (close_closed _)⟩
  · next arr c rest hs _ p1 hc =>
    refine ⟨hk, by simp [Port.pendingAll, hs, p1], ?_⟩
    rintro (h | ⟨st, hm, hc'⟩)
    · exact .inl h
    · rcases mem_cons.mp (hs ▸ hm) with rfl | hm
      · exact absurd hc' hc
      · exact .inr ⟨st, hm, hc'⟩
  · exact .refl hk

theorem pop_later (p : Port) (hk : p.kind = .dev) {m : Nat} {q : List Nat} (hq : p.queue = m :: q) :
    p.Later { p with queue := q } [m] :=
  ⟨hk, by simp [Port.pendingAll, hq], id⟩

def ROut.out : ROut → List Nat
  | .msg m => [m]
  | _ => []

theorem recvLoop_later (fuel : Nat) (p : Port) (hk : p.kind = .dev) :
    p.Later (Port.recvLoop true fuel p).1 (Port.recvLoop true fuel p).2.out ∧
    (∀ e, (Port.recvLoop true fuel p).2 = .raised e → e = .OSError ∧ (Port.recvLoop true fuel p).1.closed = true ∧
      (Port.recvLoop true fuel p).1.queue = []) ∧
    (p.closed = false → p.script.length < fuel → (Port.recvLoop true fuel p).2 = .hang →
      (Port.recvLoop true fuel p).1.closed = false ∧ (Port.recvLoop true fuel p).1.script = []) := by
  fun_induction Port.recvLoop true fuel p with
  | case1 p => exact ⟨.refl hk, by simp, fun _ hf => absurd hf (Nat.not_lt_zero _)⟩
  | case2 f p p1 m q hq =>
    have h := envStep_later p hk
    exact ⟨h.trans (pop_later p1 h.kind hq), by simp, fun _ _ h => nomatch h⟩
  | case3 f p p1 hq hb => simp at hb
  | case4 f p p1 hq hb hc => exact ⟨envStep_later p hk, by simp [hc, hq], fun _ _ h => nomatch h⟩
  | case5 f p p1 hq hb hc ih =>
    have h := envStep_later p hk
    have hs : p1.Later { p1 with sleeps := p1.sleeps + 1 } [] := ⟨h.kind, rfl, id⟩
    obtain ⟨ih1, ih2, ih3⟩ := ih h.kind
    refine ⟨h.trans (hs.trans ih1), ih2, fun _ hf hh => ?_⟩
    have hlen := (envStep_frame p).2.2 hk
    have ho1 : p1.closed = false := Bool.eq_false_iff.mpr hc
    -- the fuel is more than the script: when it runs out, so has the script
    cases f with
    | zero =>
      have hs1 : p1.script = [] := length_eq_zero_iff.mp (by simp only [p1]; omega)
      simp [Port.recvLoop, ho1, hs1]
    | succ f' => exact ih3 ho1 (by simp only [p1] at hlen ⊢; omega) hh

theorem receive_later (p : Port) (hk : p.kind = .dev) {p' : Port} {o : ROut} (h : p.receive true = (p', o)) :
    p.Later p' o.out ∧ (∀ e, o = .raised e → (e = .OSError ∨ e = .ValueError) ∧ p'.closed = true ∧ p'.queue = []) ∧
    (o = .hang → p'.closed = false ∧ p'.script = []) := by
  revert h
  fun_cases Port.receive p true <;> intro h
  · next m q hq => cases h; exact ⟨pop_later p hk hq, by simp, fun h => nomatch h⟩
  · next hq hc => cases h; exact ⟨.refl hk, by simp [hc, hq], fun h => nomatch h⟩
  · next hq hc =>
    have h' := recvLoop_later p.fuel p hk
    rw [h] at h'
    exact ⟨h'.1, fun e he => ⟨.inl (h'.2.1 e he).1, (h'.2.1 e he).2⟩, h'.2.2 (Bool.eq_false_iff.mpr hc) (by simp [Port.fuel])⟩

theorem iterAll_later (fuel : Nat) (p : Port) (acc : List Nat) (hk : p.kind = .dev) :
    ∃ out, (Port.iterAll fuel p acc).2.1 = acc ++ out ∧ p.Later (Port.iterAll fuel p acc).1 out ∧
      (∀ e, (Port.iterAll fuel p acc).2.2 ≠ .raised e) ∧
      ((Port.iterAll fuel p acc).2.2 = .normal →
        (Port.iterAll fuel p acc).1.closed = true ∧ (Port.iterAll fuel p acc).1.queue = []) ∧
      (p.pendingAll.length < fuel → (Port.iterAll fuel p acc).2.2 = .hang →
        (Port.iterAll fuel p acc).1.closed = false ∧ (Port.iterAll fuel p acc).1.script = []) := by
  fun_induction Port.iterAll fuel p acc with
  | case1 p acc => exact ⟨[], by simp, .refl hk, by simp, by simp, fun hf => absurd hf (Nat.not_lt_zero _)⟩
  | case2 n p acc p' m hrv ih =>
    have hl := (receive_later p hk hrv).1
    obtain ⟨out, h1, h2, h3, h4, h5⟩ := ih hl.kind
    have hlen := congrArg length hl.conserve
    simp only [ROut.out, length_append, length_cons, length_nil] at hlen
    exact ⟨m :: out, by simp [h1], hl.trans h2, h3, h4, fun hf => h5 (by omega)⟩
  | case3 n p acc p' e hrv hc =>
    obtain ⟨hl, hr, -⟩ := receive_later p hk hrv
    exact ⟨[], by simp, hl, by simp, fun _ => ⟨hc.2, (hr e rfl).2.2⟩, by simp⟩
  | case4 n p acc p' e hrv hc =>
    have hr := (receive_later p hk hrv).2.1 e rfl
    exact absurd ⟨hr.1, hr.2.1⟩ hc
  | case5 n p acc p' hrv => exact absurd (congrArg Prod.snd hrv) (receiveF_block_not_none p.fuel p)
  | case6 n p acc p' hrv =>
    obtain ⟨hl, -, hhang⟩ := receive_later p hk hrv
    exact ⟨[], by simp, hl, by simp, by simp, fun _ _ => hhang rfl⟩

/-- `iterAll_later` without the relation -/
theorem iterAll_spec (fuel : Nat) (p : Port) (acc : List Nat) (hk : p.kind = .dev) :
    (∀ e, (Port.iterAll fuel p acc).2.2 ≠ .raised e) ∧
    (Port.iterAll fuel p acc).2.1 ++ (Port.iterAll fuel p acc).1.pendingAll = acc ++ p.pendingAll ∧
    ((Port.iterAll fuel p acc).2.2 = .normal →
      (Port.iterAll fuel p acc).1.closed = true ∧ (Port.iterAll fuel p acc).1.queue = []) := by
  obtain ⟨out, h1, h2, h3, h4, -⟩ := iterAll_later fuel p acc hk
  exact ⟨h3, by rw [h1, append_assoc, h2.conserve], h4⟩

end Mido
