import MidoModel.Strings
import MidoModel.Socket
/-! `splitChar` (strings.py) and `splitColon` (sockets.py): one function; splitting what was joined (C14, C18). -/
namespace Mido
open List

def NoCh (sep : Char) (t : List Char) : Prop := ∀ c ∈ t, c ≠ sep

theorem splitColonAux_eq (cur s : List Char) : splitColonAux cur s = splitCharAux ':' cur s := by
  induction s generalizing cur with
  | nil => rfl
  | cons c r ih => rw [splitColonAux, splitCharAux, ih, ih]

theorem splitColon_eq (s : List Char) : splitColon s = splitChar ':' s := splitColonAux_eq [] s

theorem splitColonAux_parts (s cur : List Char) (hc : ∀ c ∈ cur, c ≠ ':') :
    ∀ part ∈ splitColonAux cur s, ∀ c ∈ part, c ≠ ':' := by
  fun_induction splitColonAux cur s with
  | case1 cur => exact forall_mem_singleton.mpr fun c h => hc c (mem_reverse.mp h)
  | case2 cur r ih => exact forall_mem_cons.mpr ⟨fun c h => hc c (mem_reverse.mp h), ih (by simp)⟩
  | case3 cur x r hx ih => exact ih (forall_mem_cons.mpr ⟨hx, hc⟩)

theorem splitCharAux_token (sep : Char) (t : List Char) (hns : NoCh sep t) : ∀ (cur rest : List Char),
    splitCharAux sep cur (t ++ rest) = splitCharAux sep (t.reverse ++ cur) rest := by
  induction t with
  | nil => intro cur rest; rfl
  | cons c r ih =>
    intro cur rest
    have hc : c ≠ sep := hns c mem_cons_self
    simp only [cons_append, splitCharAux, hc, if_false]
    rw [ih (forall_mem_cons.mp hns).2]
    simp

theorem splitChar_intercalate (sep : Char) (toks : List (List Char)) (hne : toks ≠ [])
    (h : ∀ t ∈ toks, NoCh sep t) : splitChar sep (intercalateC sep toks) = toks := by
  unfold splitChar
  fun_induction intercalateC sep toks with
  | case1 => exact absurd rfl hne
  | case2 x =>
    rw [← append_nil x, splitCharAux_token sep x (h x mem_cons_self), append_nil, splitCharAux, reverse_reverse, append_nil]
  | case3 x r hr ih =>
    rw [splitCharAux_token sep x (h x mem_cons_self), append_nil, splitCharAux, if_pos rfl, reverse_reverse,
      ih hr (forall_mem_cons.mp h).2]

end Mido
