import MidoProofs.Lemmas.ObjModel
/-! `applyKw` after `copy` has tuple-ised the `data` overrides, and the two orders of normalising and checking: lemmas for
    `C15_copy_overrides`. -/
namespace Mido
open List

/-- `tuple(value)` where it is defined -/
def toTuple (v : PyVal) : PyVal := match iterItems v with | .ok xs => .tuple xs | .error _ => v

/-- `tupleData` where it succeeds, the override itself where it fails -/
def tupled (nv : String × PyVal) : String × PyVal := if nv.1 == "data" then (nv.1, toTuple nv.2) else nv

theorem tupleData_cases (x : String × PyVal) :
    tupleData x = .ok (tupled x) ∨ (x.1 = "data" ∧ (∃ e, iterItems x.2 = .error e) ∧ ∃ e, tupleData x = .error e) := by
  unfold tupleData tupled toTuple
  split
  · cases hi : iterItems x.2 with
    | ok xs => exact .inl rfl
    | error e => exact .inr ⟨beq_iff_eq.mp ‹_›, ⟨e, rfl⟩, e, rfl⟩
  · exact .inl rfl

theorem mapM_tupleData (kw : List (String × PyVal)) :
    kw.mapM tupleData = .ok (kw.map tupled) ∨
    ((∃ nv ∈ kw, nv.1 = "data" ∧ ∃ e, iterItems nv.2 = .error e) ∧ ∃ e, kw.mapM tupleData = .error e) := by
  induction kw with
  | nil => exact .inl rfl
  | cons x r ih =>
    rcases tupleData_cases x with hx | ⟨hd, he, e, hx⟩ <;> rw [mapM_cons, hx]
    · rcases ih with hr | ⟨⟨nv, hm, h⟩, e, hr⟩ <;> rw [hr]
      · exact .inl rfl
      · exact .inr ⟨⟨nv, mem_cons_of_mem _ hm, h⟩, e, rfl⟩
    · exact .inr ⟨⟨x, mem_cons_self, hd, he⟩, e, rfl⟩

theorem applyKw_sysex_cons (n : String) (v : PyVal) (r : List (String × PyVal)) (d tm : PyVal) (u : List String) :
    applyKw .sysex ((n, v) :: r) [d] tm u =
      if n == "time" then applyKw .sysex r [d] v u
      else if "data" = n then applyKw .sysex r [v] tm u
      else applyKw .sysex r [d] tm (u ++ [n]) := by
  by_cases h : "data" = n <;> simp only [applyKw, indexOfName_sysex, h, if_true, if_false, set_cons_zero]

theorem applyKw_tupled_nodata (t : MType) (hnd : "data" ∉ t.valueNames) (kw : List (String × PyVal)) :
    ∀ (v : List PyVal) (tm : PyVal) (u : List String), applyKw t (kw.map tupled) v tm u = applyKw t kw v tm u := by
  induction kw with
  | nil => intro v tm u; rfl
  | cons x r ih =>
    intro v tm u
    obtain ⟨n, val⟩ := x
    rw [map_cons, tupled]
    split
    · obtain rfl : n = "data" := beq_iff_eq.mp ‹_›
      simp only [applyKw, indexOfName_none hnd, show ("data" == "time") = false by decide, Bool.false_eq_true, if_false, ih]
    · simp only [applyKw, ih]

theorem applyKw_tupled_sysex (kw : List (String × PyVal)) : ∀ (d tm : PyVal) (u : List String),
    applyKw .sysex (kw.map tupled) [toTuple d] tm u =
      (((applyKw .sysex kw [d] tm u).1).map toTuple, (applyKw .sysex kw [d] tm u).2.1, (applyKw .sysex kw [d] tm u).2.2) := by
  induction kw with
  | nil => intro d tm u; rfl
  | cons x r ih =>
    intro d tm u
    obtain ⟨n, val⟩ := x
    rw [map_cons, tupled]
    split
    · obtain rfl : n = "data" := beq_iff_eq.mp ‹_›
      simp only [applyKw_sysex_cons, show ("data" == "time") = false by decide, Bool.false_eq_true, if_false, if_true, ih]
    · have hd : ¬ "data" = n := fun e => ‹¬(n == "data") = true› (beq_iff_eq.mpr e.symm)
      simp only [applyKw_sysex_cons, hd, if_false, ih]
      split <;> rfl

theorem applyKw_unk_data (t : MType) (hnd : "data" ∉ t.valueNames) (kw : List (String × PyVal)) (v : List PyVal)
    (tm : PyVal) (hk : "data" ∈ kw.map (·.1)) : (applyKw t kw v tm []).2.2 ≠ [] := by
  rw [applyKw_unk, nil_append]
  exact ne_nil_of_mem (mem_filter.mpr ⟨hk, by rw [indexOfName_none hnd]; rfl⟩)

theorem iterItems_toTuple (w : PyVal) : iterItems (toTuple w) = iterItems w := by
  unfold toTuple
  split
  · exact (‹iterItems w = _›).symm
  · rfl

theorem applyKw_tupled (t : MType) (kw : List (String × PyVal)) (vals : List PyVal) (tm : PyVal)
    (hsx : t = .sysex → ∃ xs, vals = [.tuple xs]) :
    (applyKw t (kw.map tupled) vals tm []).2 = (applyKw t kw vals tm []).2 ∧
    normData t (applyKw t (kw.map tupled) vals tm []).1 = normData t (applyKw t kw vals tm []).1 ∧
    checkVals t.valueNames (applyKw t (kw.map tupled) vals tm []).1 = checkVals t.valueNames (applyKw t kw vals tm []).1 := by
  by_cases hs : t = .sysex
  · subst hs
    obtain ⟨xs, rfl⟩ := hsx rfl
    have h1 : applyKw .sysex (kw.map tupled) [.tuple xs] tm [] = _ := applyKw_tupled_sysex kw (.tuple xs) tm []
    obtain ⟨w, hw⟩ := length_eq_one_iff.mp (applyKw_length .sysex kw [.tuple xs] tm [])
    rw [h1, hw]
    exact ⟨rfl, by rw [map_singleton, normData_sysex, normData_sysex, iterItems_toTuple],
      by rw [map_singleton, MType.valueNames, checkVals_cons, checkVals_cons, checkAttr_data, checkAttr_data,
        iterItems_toTuple]⟩
  · rw [applyKw_tupled_nodata t (fun h => hs (data_only_sysex t h))]
    exact ⟨rfl, rfl, rfl⟩

theorem norm_check_swap {t : MType} {vals : List PyVal} {tm : PyVal} {u : List String}
    (hl : vals.length = t.valueNames.length) :
    (do let vals' ← normData t vals; checkAll t vals' tm u; pure (⟨t, vals', tm⟩ : MObj)).toOption =
    (do checkAll t vals tm u; let vals' ← normData t vals; pure (⟨t, vals', tm⟩ : MObj)).toOption := by
  cases hn : normData t vals with
  | error e => cases checkAll t vals tm u <;> rfl
  | ok vals' =>
    have : checkAll t vals' tm u = checkAll t vals tm u := by rw [checkAll, checkAll, checkVals_normData hl hn]
    simp only [bind, Except.bind, this]

theorem applyKw_sysex_keep (kw : List (String × PyVal)) (hk : "data" ∉ kw.map (·.1)) : ∀ (d tm : PyVal) (u : List String),
    (applyKw .sysex kw [d] tm u).1 = [d] := by
  induction kw with
  | nil => intro d tm u; rfl
  | cons x r ih =>
    intro d tm u
    rw [map_cons, mem_cons, not_or] at hk
    rw [applyKw_sysex_cons, if_neg hk.1]
    split <;> exact ih hk.2 _ _ _

theorem applyKw_sysex_data (kw : List (String × PyVal)) (hnd : (kw.map (·.1)).Nodup) (val : PyVal)
    (hm : ("data", val) ∈ kw) : ∀ (d tm : PyVal) (u : List String), (applyKw .sysex kw [d] tm u).1 = [val] := by
  induction kw with
  | nil => cases hm
  | cons x r ih =>
    intro d tm u
    obtain ⟨n, v0⟩ := x
    rw [map_cons, nodup_cons] at hnd
    rw [applyKw_sysex_cons]
    rcases mem_cons.mp hm with he | hm'
    · cases he
      rw [if_neg (by decide), if_pos rfl, applyKw_sysex_keep r hnd.1]
    · repeat' split
      all_goals exact ih hnd.2 hm' _ _ _

end Mido
