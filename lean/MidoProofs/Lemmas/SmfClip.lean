import MidoModel.Smf
import MidoProofs.Lemmas.Except
/-! `clip=True` against `clip=False` on arbitrary byte strings: the two readers agree, except that the strict one may stop
    at a data byte above 127 (`ClipRel`).  First the reader's three-way choice after a status byte (`readKind`) and the
    channel-message and sysex readers in the form in which `Props/C08` compares them per event. -/
namespace Mido
open List

theorem clipByte_le (b : Nat) : clipByte b ≤ 127 := by unfold clipByte; split <;> omega
theorem clipByte_id (b : Nat) (h : b ≤ 127) : clipByte b = b := by unfold clipByte; split <;> omega

theorem any_gt_iff (d : List Nat) : d.any (· > 127) = false ↔ d.all (· ≤ 127) = true := by
  simp only [all_eq_true, decide_eq_true_eq, any_eq_false, Nat.not_lt, gt_iff_lt]

theorem map_clip_id (l : List Nat) (h : l.all (· ≤ 127) = true) : l.map clipByte = l :=
  (map_congr_left fun a ha => clipByte_id a (of_decide_eq_true (all_eq_true.mp h a ha))).trans (map_id l)

theorem map_clip_all (l : List Nat) : (l.map clipByte).all (· ≤ 127) = true := by
  simp only [all_map, all_eq_true, Function.comp_apply, decide_eq_true_eq]
  intro b _; exact clipByte_le b

/-- `L`, `hL`: so that a caller can `generalize` the `match` -/
theorem readChannelish_eq (clip : Bool) (st : Nat) (peek bs : List Nat) (L : Nat)
    (hL : (match specLen st with | some n => n | none => 0) = L) :
    readChannelish clip st peek bs =
      if !definedStatus st then .error .OSError else
      if bs.length < L - 1 - peek.length then .error .EOFError else
      if !clip && (peek ++ bs.take (L - 1 - peek.length)).any (· > 127) then .error .OSError else
      match decodeNats (st :: (if clip then (peek ++ bs.take (L - 1 - peek.length)).map clipByte
                               else peek ++ bs.take (L - 1 - peek.length))) with
      | .ok m => .ok (.msg m, bs.drop (L - 1 - peek.length))
      | .error e => .error e := by
  subst hL; rfl

/-- the framing of a sysex event, before any data check -/
def sysexPayload (bs : List Nat) : Except Err (List Nat × List Nat) := do
  let (len, r1) ← readVlq bs
  let (data, r2) ← readBytes len r1
  let d1 := stripF0 data
  pure (if d1.getLast? = some 0xf7 then d1.dropLast else d1, r2)

/-- what `readEvent` reads after the status byte `st`; under running status `peek` holds the data byte read in its place -/
def readKind (cs : Charset) (clip : Bool) (st : Nat) (peek bs : List Nat) : Except Err (FEv × List Nat) :=
  if st = 0xff then readMeta cs bs
  else if st = 0xf0 ∨ st = 0xf7 then readSysex clip bs
  else readChannelish clip st peek bs

theorem readEvent_eq (cs : Charset) (clip : Bool) (last : Option Nat) (bs : List Nat) :
    readEvent cs clip last bs = (do
      let (delta, r1) ← readVlq bs
      match r1 with
      | [] => throw .EOFError
      | sb :: r2 =>
        if sb < 0x80 then
          match last with
          | none => throw .OSError
          | some st => do let (e, r) ← readKind cs clip st [sb] r2; pure (⟨e, delta⟩, r, last)
        else do
          let (e, r) ← readKind cs clip sb [] r2
          pure (⟨e, delta⟩, r, if sb = 0xff then last else some sb)) := by
  unfold readEvent readKind
  refine congrArg (readVlq bs >>= ·) (funext fun ⟨delta, r1⟩ => ?_)
  cases r1 with
  | nil => rfl
  | cons sb r2 =>
    refine ite_congr rfl (fun _ => ?_) fun _ => ?_
    · cases last with
      | none => rfl
      | some st =>
        show _ = (ite _ _ _ >>= _)
        rw [ite_bind, ite_bind]
    · by_cases h1 : sb = 0xff
      · subst h1; rfl
      rw [if_neg h1, if_neg h1]
      simp only [if_neg h1]
      exact (ite_bind ..).symm

theorem readEvent_kind {cs : Charset} {clip : Bool} {last : Option Nat} {bs : List Nat} {e : LEvent} {r : List Nat}
    {l : Option Nat} (h : readEvent cs clip last bs = .ok (e, r, l)) :
    ∃ sb r2 st peek, readVlq bs = .ok (e.delta, sb :: r2) ∧ readKind cs clip st peek r2 = .ok (e.ev, r) := by
  rw [readEvent_eq] at h
  obtain ⟨⟨delta, r1⟩, hv, h⟩ := bind_eq_ok.mp h
  obtain _ | ⟨sb, r2⟩ := r1
  · cases h
  obtain ⟨st, peek, l', h⟩ : ∃ st peek l', (readKind cs clip st peek r2 >>= fun v =>
      (pure (⟨v.1, delta⟩, v.2, l') : Except Err (LEvent × List Nat × Option Nat))) = .ok (e, r, l) := by
    replace h : (if sb < 0x80 then _ else _) = _ := h
    by_cases h0 : sb < 0x80
    · rw [if_pos h0] at h
      cases last with
      | none => cases h
      | some st => exact ⟨st, [sb], _, h⟩
    · rw [if_neg h0] at h
      exact ⟨sb, [], _, h⟩
  obtain ⟨v, hk, h⟩ := bind_eq_ok.mp h
  cases h
  exact ⟨sb, r2, st, peek, hv, hk⟩

theorem readKind_meta (cs : Charset) (clip : Bool) (peek bs : List Nat) :
    readKind cs clip 0xff peek bs = readMeta cs bs := rfl

theorem readKind_sysex (cs : Charset) (clip : Bool) (peek bs : List Nat) :
    readKind cs clip 0xf0 peek bs = readSysex clip bs := rfl

theorem readKind_chan {st : Nat} (h1 : st ≠ 0xff) (h2 : ¬ (st = 0xf0 ∨ st = 0xf7)) (cs : Charset) (clip : Bool)
    (peek bs : List Nat) : readKind cs clip st peek bs = readChannelish clip st peek bs := by
  rw [readKind, if_neg h1, if_neg h2]

/-- the two errors mido raises for a data byte above 127 -/
def DataErr (e : Err) : Prop := e = .OSError ∨ e = .ValueError

/-- the strict reader `s` against the clipping reader `c`: the same outcome, unless the strict one stops
    at a data byte above 127 -/
def ClipRel {α} (s c : Except Err α) : Prop := s = c ∨ ∃ e, DataErr e ∧ s = .error e

theorem ClipRel.refl {α} (x : Except Err α) : ClipRel x x := .inl rfl

theorem ClipRel.ite {α} {p : Prop} [Decidable p] {s s' c c' : Except Err α} (h : ClipRel s c) (h' : ClipRel s' c') :
    ClipRel (if p then s else s') (if p then c else c') := by
  split <;> assumption

theorem ClipRel.bind {α β} {s c : Except Err α} {k k' : α → Except Err β} (h : ClipRel s c)
    (hk : ∀ a, ClipRel (k a) (k' a)) : ClipRel (s >>= k) (c >>= k') := by
  rcases h with rfl | ⟨e, he, rfl⟩
  · cases s with
    | error e => exact .inl rfl
    | ok a => exact hk a
  · exact .inr ⟨e, he, rfl⟩

theorem ClipRel.ok_strict {α} {s c : Except Err α} (h : ClipRel s c) {r : α} (hs : s = .ok r) : c = .ok r := by
  rcases h with rfl | ⟨e, _, rfl⟩
  · exact hs
  · cases hs

theorem readSysex_rel (bs : List Nat) : ClipRel (readSysex false bs) (readSysex true bs) := by
  unfold readSysex
  refine .bind (.refl _) fun ⟨len, r1⟩ => .bind (.refl _) fun ⟨data, r2⟩ => ?_
  simp only [Bool.false_eq_true, if_false, if_true]
  generalize (if (stripF0 data).getLast? = some 0xf7 then (stripF0 data).dropLast else stripF0 data) = d2
  by_cases hall : d2.all (· ≤ 127) = true
  · rw [map_clip_id _ hall]; exact .refl _
  · rw [if_neg hall]; exact .inr ⟨_, .inr rfl, rfl⟩

theorem readChannelish_rel (st : Nat) (peek bs : List Nat) :
    ClipRel (readChannelish false st peek bs) (readChannelish true st peek bs) := by
  rw [readChannelish_eq false _ _ _ _ rfl, readChannelish_eq true _ _ _ _ rfl]
  generalize (match specLen st with | some n => n | none => 0) = L
  refine .ite (.refl _) (.ite (.refl _) ?_)
  generalize peek ++ take _ bs = data
  cases hany : data.any (· > 127) with
  | true => exact .inr ⟨_, .inl rfl, rfl⟩
  | false => rw [map_clip_id _ ((any_gt_iff _).mp hany)]; exact .refl _

theorem readKind_rel (cs : Charset) (st : Nat) (peek bs : List Nat) :
    ClipRel (readKind cs false st peek bs) (readKind cs true st peek bs) :=
  .ite (.refl _) (.ite (readSysex_rel bs) (readChannelish_rel st peek bs))

theorem readEvent_rel (cs : Charset) (last : Option Nat) (bs : List Nat) :
    ClipRel (readEvent cs false last bs) (readEvent cs true last bs) := by
  rw [readEvent_eq, readEvent_eq]
  refine .bind (.refl _) fun ⟨delta, r1⟩ => ?_
  cases r1 with
  | nil => exact .refl _
  | cons sb r2 =>
    refine .ite ?_ ((readKind_rel cs sb [] r2).bind fun _ => .refl _)
    cases last with
    | none => exact .refl _
    | some st => exact (readKind_rel cs st [sb] r2).bind fun _ => .refl _

theorem readEvents_rel (cs : Charset) (size fuel : Nat) : ∀ (consumed : Nat) (last : Option Nat) (bs : List Nat),
    ClipRel (readEvents cs false size fuel consumed last bs) (readEvents cs true size fuel consumed last bs) := by
  induction fuel with
  | zero => exact fun _ _ _ => .refl _
  | succ n ih =>
    exact fun c l bs => .ite (.refl _) ((readEvent_rel cs l bs).bind fun ⟨e, rest, l'⟩ => (ih _ _ _).bind fun _ => .refl _)

theorem readTrack_rel (cs : Charset) (bs : List Nat) : ClipRel (readTrack cs false bs) (readTrack cs true bs) :=
  .ite (.refl _) (.ite (.refl _) (readEvents_rel ..))

theorem readTracks_rel (cs : Charset) (n : Nat) : ∀ bs, ClipRel (readTracks cs false n bs) (readTracks cs true n bs) := by
  induction n with
  | zero => exact fun _ => .refl _
  | succ n ih =>
    exact fun bs => (readTrack_rel cs bs).bind fun ⟨t, rest⟩ => (ih rest).bind fun _ => .refl _

theorem readFile_rel (cs : Charset) (bs : List Nat) : ClipRel (readFile cs false bs) (readFile cs true bs) := by
  refine .ite (.refl _) (.ite (.refl _) ?_)
  simp only []
  split
  · exact (readTracks_rel ..).bind fun _ => .refl _
  · exact .refl _

/-- a step whose strict version is "same or data error", followed by the same continuation -/
theorem bind_same_or_err {α β} (x y : Except Err α) (k : α → Except Err β) (r : β) (a : α)
    (hx : x = .ok a) (hy : y = .ok a ∨ ∃ e, DataErr e ∧ y = .error e) (h : k a = .ok r) :
    (y >>= k) = .ok r ∨ ∃ e, DataErr e ∧ (y >>= k) = .error e := by
  rcases hy with rfl | ⟨e, he, rfl⟩
  · exact .inl h
  · exact .inr ⟨e, he, rfl⟩

end Mido
