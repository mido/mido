import MidoModel.PortsSeq
/-! Equations of the sequential port model, for C11 and the ports tie. -/
namespace Mido
open List

theorem recvLoop_succ (block : Bool) (f : Nat) (p : Port) :
    Port.recvLoop block (f + 1) p =
      match p.envStep.queue with
      | m :: q => ({ p.envStep with queue := q }, .msg m)
      | [] =>
        if !block then (p.envStep, .none)
        else if p.envStep.closed then (p.envStep, .raised .OSError)
        else Port.recvLoop block f { p.envStep with sleeps := p.envStep.sleeps + 1 } := rfl

theorem recvLoop_nb (f : Nat) (p : Port) : Port.recvLoop false (f + 1) p = Port.recvLoop false 1 p := by
  cases p.envStep.queue <;> rfl

/-- `Port.receive` with the number of polling rounds a parameter: the translated `receive` gets one fixed number, the
    model's takes `p.fuel` anew at each call (`receiveF_fuel`, `receiveF_eq`) -/
def Port.receiveF (F : Nat) (p : Port) (block : Bool) : Port × ROut :=
  match p.queue with
  | m :: q => ({ p with queue := q }, .msg m)
  | [] =>
    if p.closed then (p, if block then .raised .ValueError else .none)
    else Port.recvLoop block F p

theorem receiveF_fuel (p : Port) (block : Bool) : p.receiveF p.fuel block = p.receive block := rfl

theorem receiveF_nb (F G : Nat) (p : Port) : p.receiveF (F + 1) false = p.receiveF (G + 1) false := by
  simp only [Port.receiveF, recvLoop_nb F, recvLoop_nb G]

theorem recvLoop_block_not_none (f : Nat) (p : Port) : (Port.recvLoop true f p).2 ≠ .none := by
  fun_induction Port.recvLoop true f p with
  | case1 | case2 | case4 => simp
  | case3 f p p1 hq hb => simp at hb
  | case5 f p p1 hq hb hc ih => exact ih

theorem receiveF_block_not_none (F : Nat) (p : Port) : (p.receiveF F true).2 ≠ .none := by
  fun_cases Port.receiveF F p true
  · simp
  · simp
  · exact recvLoop_block_not_none F p

theorem receive_cons {p : Port} {m : Nat} {q : List Nat} (hq : p.queue = m :: q) (b : Bool) :
    p.receive b = ({ p with queue := q }, .msg m) := by simp [Port.receive, hq]
theorem receive_nil_closed {p : Port} (hq : p.queue = []) (hc : p.closed = true) (b : Bool) :
    p.receive b = (p, if b then .raised .ValueError else .none) := by simp [Port.receive, hq, hc]
theorem receive_nil_open {p : Port} (hq : p.queue = []) (hc : p.closed = false) (b : Bool) :
    p.receive b = Port.recvLoop b p.fuel p := by simp [Port.receive, hq, hc]

theorem sendFails_iff (p : Port) : p.sendFails = true ↔ p.kind = .dev ∧ p.budget = some 0 := by
  unfold Port.sendFails
  split <;> simp_all

theorem rawSend_dev (p : Port) (hk : p.kind = .dev) (i : Nat) :
    p.rawSend i = { p with log := p.log ++ [.sent i], budget := p.budget.map (· - 1) } := by
  unfold Port.rawSend; rw [hk]

/-- `p'` differs from `p` at most in what a `_send` touches -/
structure Port.SameBut (p p' : Port) : Prop where
  kind : p'.kind = p.kind
  closed : p'.closed = p.closed
  autoreset : p'.autoreset = p.autoreset
  script : p'.script = p.script
  sleeps : p'.sleeps = p.sleeps
  queue : p.kind = .dev → p'.queue = p.queue

theorem Port.SameBut.refl (p : Port) : p.SameBut p := ⟨rfl, rfl, rfl, rfl, rfl, fun _ => rfl⟩

theorem Port.SameBut.trans {p p' p'' : Port} (a : p.SameBut p') (b : p'.SameBut p'') : p.SameBut p'' :=
  ⟨b.kind.trans a.kind, b.closed.trans a.closed, b.autoreset.trans a.autoreset, b.script.trans a.script,
    b.sleeps.trans a.sleeps, fun h => (b.queue (a.kind.trans h)).trans (a.queue h)⟩

theorem rawSend_same (p : Port) (i : Nat) : p.SameBut (p.rawSend i) := by
  unfold Port.rawSend
  cases hk : p.kind with
  | dev => exact ⟨hk.symm, rfl, rfl, rfl, rfl, fun _ => rfl⟩
  | echo => exact ⟨hk.symm, rfl, rfl, rfl, rfl, fun h => by cases hk.symm.trans h⟩

theorem resetSends_same (l : List Nat) (p : Port) : p.SameBut (Port.resetSends l p) := by
  fun_induction Port.resetSends l p with
  | case1 p | case2 i r p => exact .refl p
  | case3 i r p _ ih => exact (rawSend_same p i).trans ih

theorem close_closed (p : Port) : p.close.closed = true := by
  unfold Port.close
  by_cases h : p.closed = true <;> simp [h]

theorem close_keeps (p : Port) : p.close.kind = p.kind ∧ p.close.script = p.script ∧ p.close.sleeps = p.sleeps ∧
    (p.kind = .dev → p.close.queue = p.queue) := by
  have h := resetSends_same resetIds p
  unfold Port.close
  split
  · exact ⟨rfl, rfl, rfl, fun _ => rfl⟩
  · split
    · exact ⟨h.kind, h.script, h.sleeps, h.queue⟩
    · exact ⟨rfl, rfl, rfl, fun _ => rfl⟩

theorem envStep_nil (p : Port) (hs : p.script = []) : p.envStep = p := by
  unfold Port.envStep; rw [hs]; cases p.kind <;> rfl
theorem envStep_echo (p : Port) (hk : p.kind = .echo) : p.envStep = p := by
  unfold Port.envStep; rw [hk]
theorem envStep_cons (p : Port) (hk : p.kind = .dev) {arr : List Nat} {c : Bool} {rest : List (List Nat × Bool)}
    (hs : p.script = (arr, c) :: rest) :
    p.envStep = if c then ({ p with queue := p.queue ++ arr, script := rest } : Port).close
      else { p with queue := p.queue ++ arr, script := rest } := by
  unfold Port.envStep; rw [hk, hs]

theorem envStep_frame (p : Port) : p.envStep.sleeps = p.sleeps ∧ p.envStep.script.length ≤ p.script.length ∧
    (p.kind = .dev → p.envStep.script.length = p.script.length - 1) := by
  cases hk : p.kind with
  | echo => rw [envStep_echo p hk]; exact ⟨rfl, Nat.le_refl _, fun h => nomatch h⟩
  | dev =>
    cases hs : p.script with
    | nil => rw [envStep_nil p hs, hs]; exact ⟨rfl, Nat.le_refl _, fun _ => rfl⟩
    | cons st r => rw [envStep_cons p hk hs]; split <;> simp [close_keeps]

theorem recvLoop_mono (b : Bool) : ∀ (f : Nat) (p : Port), (Port.recvLoop b f p).2 ≠ .hang →
    ∀ f', f ≤ f' → Port.recvLoop b f' p = Port.recvLoop b f p
  | 0, p, h, _, _ => absurd rfl h
  | f + 1, p, h, 0, hf => absurd hf (Nat.not_succ_le_zero f)
  | f + 1, p, h, g + 1, hf => by
    simp only [recvLoop_succ] at h ⊢
    split
    · rfl
    · next hq =>
      simp only [hq] at h ⊢
      cases b with
      | false => rfl
      | true =>
        cases hc : p.envStep.closed with
        | true => rfl
        | false =>
          simp only [hc, Bool.not_true, Bool.false_eq_true, if_false] at h ⊢
          exact recvLoop_mono true f _ h g (Nat.le_of_succ_le_succ hf)

theorem recvLoop_script_le (b : Bool) (f : Nat) (p : Port) : (Port.recvLoop b f p).1.script.length ≤ p.script.length := by
  fun_induction Port.recvLoop b f p with
  | case1 p => exact Nat.le_refl _
  | case2 | case3 | case4 => exact (envStep_frame _).2.1
  | case5 f p p1 hq hb hc ih => exact Nat.le_trans ih (envStep_frame p).2.1

theorem receive_fuel_le (p : Port) (b : Bool) : (p.receive b).1.fuel ≤ p.fuel := by
  fun_cases Port.receive p b
  · exact Nat.le_refl _
  · exact Nat.le_refl _
  · exact Nat.add_le_add_right (recvLoop_script_le b _ p) 2

theorem receiveF_eq (F : Nat) (p : Port) (b : Bool) (hF : p.fuel ≤ F) (hh : (p.receive b).2 ≠ .hang) :
    p.receiveF F b = p.receive b := by
  fun_cases Port.receiveF F p b
  · next hq => exact (receive_cons hq b).symm
  · next hq hc => exact (receive_nil_closed hq hc b).symm
  · next hq hc =>
    rw [receive_nil_open hq (Bool.eq_false_iff.mpr hc)] at hh ⊢
    exact recvLoop_mono b p.fuel p hh F hF

end Mido
