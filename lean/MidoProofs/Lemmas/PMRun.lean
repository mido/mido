import MidoModel.PySem
/-! Running a `PM` computation on a state, operation by operation. -/
namespace Mido
open Mido.Py

variable {σ α β : Type}
@[simp] theorem PM.run_pure (a : α) (s : σ) : (pure a : PM σ α) s = (.ok a, s) := rfl
@[simp] theorem PM.run_bind (x : PM σ α) (f : α → PM σ β) (s : σ) :
    (x >>= f) s = match x s with | (.ok a, s') => f a s' | (.error e, s') => (.error e, s') := rfl

@[simp] theorem PM.run_get (s : σ) : (get : PM σ σ) s = (.ok s, s) := rfl
@[simp] theorem PM.run_modify (f : σ → σ) (s : σ) : (modify f : PM σ Unit) s = (.ok (), f s) := rfl
@[simp] theorem PM.run_throw (e : Err) (s : σ) : (throw e : PM σ α) s = (.error e, s) := rfl
@[simp] theorem PM.run_tryCatch (x : PM σ α) (h : Err → PM σ α) (s : σ) :
    (tryCatch x h) s = match x s with | (.ok a, s') => (.ok a, s') | (.error e, s') => h e s' := rfl

@[simp] theorem PM.run_tryFinally (x : PM σ α) (fin : PM σ Unit) (s : σ) :
    (PM.tryFinally' x fin) s = match fin (x s).2 with | (.ok _, s') => ((x s).1, s') | (.error e, s') => (.error e, s') := rfl

theorem PM.run_ite (c : Prop) [Decidable c] (x y : PM σ α) (s : σ) : (if c then x else y) s = if c then x s else y s := by
  split <;> rfl

end Mido
