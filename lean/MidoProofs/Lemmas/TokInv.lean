import MidoProofs.Lemmas.TokStep
/-! The invariant of the tokenizer state (every emitted token is one complete message), kept by every step. -/
namespace Mido
open List

/-- While a message is pending (`status ≠ 0`) the collected bytes are its status byte and data bytes only; an open sysex
    has the "infinite" length `len = 0`; a fixed-length message is still strictly short of its length. -/
structure TokInv (st : Tok) : Prop where
  out_good : ∀ t ∈ st.out, GoodTok t
  pend : st.status ≠ 0 → ∃ d, st.bytes = st.status :: d ∧ d.all (· ≤ 127) = true ∧
      ((st.status = 0xF0 ∧ st.len = 0) ∨
       (st.status ≠ 0xF0 ∧ specLen st.status = some st.len ∧ d.length + 1 < st.len))

theorem TokInv.init : TokInv {} := ⟨by simp, by simp⟩

theorem TokInv.idle {b : List Nat} {l : Nat} {o : List (List Nat)} (ho : ∀ x ∈ o, GoodTok x) :
    TokInv ⟨0, b, l, o⟩ := ⟨ho, fun h => absurd rfl h⟩

theorem good_snoc {o : List (List Nat)} {t : List Nat} (ho : ∀ x ∈ o, GoodTok x) (ht : GoodTok t) :
    ∀ x ∈ o ++ [t], GoodTok x :=
  forall_mem_append.mpr ⟨ho, forall_mem_singleton.mpr ht⟩

theorem TokInv.feedData {st : Tok} (h : TokInv st) (b : Nat) (hb : b < 128) :
    TokInv (st.feedData b) := by
  by_cases hs : st.status = 0
  · rw [st.feedData_idle b hs]; exact h
  obtain ⟨d, hbytes, hd, hcase⟩ := h.pend hs
  have hd' : (d ++ [b]).all (· ≤ 127) = true := by
    rw [all_append, hd, all_cons, all_nil, decide_eq_true (Nat.le_of_lt_succ hb)]; rfl
  have hlen : st.bytes.length = d.length + 1 := by simp [hbytes]
  by_cases hl : st.bytes.length + 1 = st.len
  · rw [st.feedData_close b hs hl]
    refine .idle (good_snoc h.out_good ?_)
    rcases hcase with ⟨_, h0⟩ | ⟨hne, hsl, _⟩
    · omega
    · exact .inl ⟨st.status, d ++ [b], by simp [hbytes], hne, hd', by rw [hsl, ← hl]; simp [hlen]⟩
  · rw [st.feedData_push b hs hl]
    refine ⟨h.out_good, fun _ => ⟨d ++ [b], by simp [hbytes], hd', ?_⟩⟩
    rcases hcase with hc | ⟨hne, hsl, hlt⟩
    · exact .inl hc
    · exact .inr ⟨hne, hsl, by simp; omega⟩

theorem TokInv.feedStatus {st : Tok} (h : TokInv st) (s : Nat) :
    TokInv (st.feedStatus s) := by
  have h1 : TokInv (if st.status ≠ 0xF0 then { st with status := 0 } else st) := by
    split
    · exact .idle h.out_good
    · exact h
  -- the branches of `Tok.feedStatus` from top to bottom: F7 closing a sysex / otherwise; real-time, defined / not; F0;
  -- a status of length 1 / of greater length / undefined
  fun_cases Tok.feedStatus st s
  case case1 c =>
    obtain ⟨d, hbytes, hd, _⟩ := h.pend (by rw [c]; decide)
    exact .idle (good_snoc h.out_good (.inr ⟨d, by simp [hbytes, c], hd⟩))
  case case2 => exact .idle h.out_good
  case case3 hrt _ hdef =>
    obtain ⟨n, hn⟩ := (definedStatus_iff.mp hdef).resolve_left (by omega)
    obtain rfl := specLen_rt hn hrt
    exact ⟨good_snoc h1.out_good (.single hn), h1.pend⟩
  case case4 => exact h1
  case case5 h0 => exact ⟨h.out_good, fun _ => ⟨[], rfl, rfl, .inl ⟨h0, rfl⟩⟩⟩
  case case6 hl => exact .idle (good_snoc h.out_good (.single hl))
  case case7 h0 n hn1 hl =>
    have := specLen_range hl
    have : n ≠ 1 := hn1
    exact ⟨h.out_good, fun _ => ⟨[], rfl, rfl, .inr ⟨h0, hl, by simp; omega⟩⟩⟩
  case case8 => exact h

/-- no bound on the byte: the model treats a value above 255 as an undefined real-time byte (the source raises) -/
theorem TokInv.step {st : Tok} (h : TokInv st) (b : Nat) : TokInv (st.feedByte b) := by
  by_cases c : b < 128
  · rw [st.feedByte_data c]; exact h.feedData b c
  · rw [st.feedByte_status (by omega)]; exact h.feedStatus b

theorem TokInv.feedByte {st : Tok} (h : TokInv st) (b : Nat) (hb : b < 256) :
    TokInv (st.feedByte b) := h.step b

theorem TokInv.run {st : Tok} (h : TokInv st) (bs : List Nat) : TokInv (st.feed bs) :=
  foldlRecOn bs Tok.feedByte h fun _ hb b _ => hb.step b

theorem TokInv.feed {st : Tok} (h : TokInv st) (bs : List Nat) (hb : ∀ b ∈ bs, b < 256) :
    TokInv (st.feed bs) := h.run bs

end Mido
