import MidoModel.Tables
import MidoModel.Meta
import MidoModel.Smf
import MidoModel.MsgObj
import MidoModel.Tempo
import MidoModel.CharsetScope
/-!
  Table tie: the tables extracted from the working tree on this run equal the model's.
  If the source tables change, one of these stops checking.  (`SPECS` reaches Lean a second time, as the translator's
  `Src.SPEC_BY_STATUS`: tied in SrcTie/SpecTable.lean.)
-/
namespace Mido

theorem tie_specs : Generated.specs = specTable := rfl
theorem tie_lengths : lenAgrees Generated.specs = true := by decide +kernel
theorem tie_rows : rowsAgree = true := by decide +kernel
theorem tie_defined :
    Generated.definedStatusBytes = (List.range 256).filter definedStatus := by decide +kernel
theorem tie_limits : Generated.limits =
    [("MIN_PITCHWHEEL", -8192), ("MAX_PITCHWHEEL", 8191), ("MIN_SONGPOS", 0),
     ("MAX_SONGPOS", 16383), ("SYSEX_START", 240), ("SYSEX_END", 247)] := rfl

theorem tie_channel_range : Generated.channelRange = (0x80, 0xef) := by decide +kernel

theorem tie_meta_specs : Generated.metaSpecs =
    MetaType.all.map (fun t => (t.typeByte, t.name, t.attrs)) := rfl
theorem tie_keys : Generated.keySignatures = keyTable := rfl
theorem tie_frame_rates : Generated.frameRates = frameRates := by decide +kernel

theorem tie_realtime : Generated.realtimeTypes = realtimeTypeNames := rfl
theorem tie_realtime_model : [S1.clock, .start, .continue_, .stop, .active_sensing, .reset].map S1.name
    = ["clock", "start", "continue", "stop", "active_sensing", "reset"] ∧
    ∀ k : S1, (FEv.msg (.sys1 k)).isRealtime = (k.name ∈ realtimeTypeNames) :=
  ⟨by decide, fun k => by cases k <;> decide⟩

theorem tie_max_len : Generated.maxMessageLength = maxMessageLength := by decide +kernel

def intsOf (vs : List PyVal) : List Int := vs.filterMap (fun v => match v with | .int n => some n | _ => none)

/-- `DEFAULT_VALUES` of the message specs: the model's `defaultOf` on every integer attribute -/
theorem tie_int_defaults :
    Generated.intDefaults.all (fun p => p.1 == "time" || defaultOf p.1 == .int p.2) = true := by decide +kernel
theorem tie_meta_defaults : Generated.metaIntDefaults =
    MetaType.all.map (fun t => (t.typeByte, intsOf t.defaults)) := by decide +kernel
theorem tie_default_tempo : Generated.defaultTempo = defaultTempo := by decide +kernel
theorem tie_default_charset : Generated.defaultCharset = "latin1" ∧ ({} : GState).charset = Charset.latin1 := by decide +kernel
end Mido
