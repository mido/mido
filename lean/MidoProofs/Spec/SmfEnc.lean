import MidoModel.Smf
import MidoProofs.Spec.Vlq
import MidoProofs.Spec.Vocab
/-!
  The Standard MIDI File encoding of an event list, as a *relation* between events and bytes
  (specification level: no reader or writer function is mentioned).  It admits every legal
  spelling: padded variable-length quantities, running status used or not used wherever the
  standard allows it.  `save` must produce a member of the relation (C08, write direction) and
  `load` must invert every member (C08, read direction).
-/
namespace Mido
open List

/-- the standard's running status after an event: a channel message establishes its status byte,
    everything else (sysex, system common, meta) cancels it -/
def rsAfter : FEv → Option Nat
  | .msg m => if m.status < 0xf0 then some m.status else none
  | _ => none

/-- One event (after its delta time) in a standard-conformant spelling, given the running status
    `rs` in force before it.  The payload bounds are the reader's documented limit
    (`maxMessageLength` = 1 000 000 bytes). -/
inductive EncEv (cs : Charset) (rs : Option Nat) : FEv → List Nat → Prop
  /-- channel or system-common message with its status byte -/
  | full (m : Msg) (hv : m.Valid) (hnr : m.isRealtime = false) (hns : ∀ d, m ≠ .sysex d) :
      EncEv cs rs (.msg m) (encode m)
  /-- channel message whose status byte equals the running status: the status byte may be omitted -/
  | running (m : Msg) (hv : m.Valid) (hch : m.status < 0xf0) (hrs : rs = some m.status) :
      EncEv cs rs (.msg m) (encode m).tail
  /-- sysex: F0 <length> data F7, the length counting the F7 -/
  | sysex (d lb : List Nat) (hd : d.all (· ≤ 127) = true) (hl : VlqDenotes lb 0 (d.length + 1))
      (hmax : d.length + 1 ≤ maxMessageLength) :
      EncEv cs rs (.msg (.sysex d)) ([0xf0] ++ lb ++ d ++ [0xf7])
  /-- meta event of a known type: FF type <length> payload -/
  | metaEv (mm : MetaMsg) (p lb : List Nat) (hc : mm.check = .ok ()) (hn : mm.normal = true)
      (hp : metaPayload cs mm = .ok p) (hl : VlqDenotes lb 0 p.length) (hmax : p.length ≤ maxMessageLength) :
      EncEv cs rs (.metaEv mm) ([0xff, mm.ty.typeByte] ++ lb ++ p)
  /-- meta event of a type mido does not know: kept as raw bytes -/
  | unknownMeta (tb : Nat) (data lb : List Nat) (hu : MetaType.ofByte tb = none)
      (hl : VlqDenotes lb 0 data.length) (hmax : data.length ≤ maxMessageLength) :
      EncEv cs rs (.unknownMeta tb data) ([0xff, tb] ++ lb ++ data)

/-- the body of a track chunk: delta time and event, repeated -/
inductive EncBody (cs : Charset) : Option Nat → List LEvent → List Nat → Prop
  | nil (rs : Option Nat) : EncBody cs rs [] []
  | cons (rs : Option Nat) (e : LEvent) (db eb : List Nat) (es : List LEvent) (rest : List Nat)
      (hd : VlqDenotes db 0 e.delta) (he : EncEv cs rs e.ev eb) (hr : EncBody cs (rsAfter e.ev) es rest) :
      EncBody cs rs (e :: es) (db ++ eb ++ rest)

/-- a track chunk: `MTrk`, the exact 32-bit body length, the body; running status starts cancelled -/
inductive EncTrack (cs : Charset) : List LEvent → List Nat → Prop
  | mk (evs : List LEvent) (body : List Nat) (hb : EncBody cs none evs body) (hlen : body.length < 4294967296) :
      EncTrack cs evs (mtrk ++ u32be body.length ++ body)

inductive EncTracks (cs : Charset) : List (List LEvent) → List Nat → Prop
  | nil : EncTracks cs [] []
  | cons (t : List LEvent) (ts : List (List LEvent)) (a b : List Nat) (ha : EncTrack cs t a) (hb : EncTracks cs ts b) :
      EncTracks cs (t :: ts) (a ++ b)

/-- 16-bit big-endian two's complement -/
def Enc16 (v : Int) (a b : Nat) : Prop := a < 256 ∧ b < 256 ∧ s16 a b = v

/-- a file: `MThd`, a header chunk of 6 **or more** bytes (extra bytes are to be ignored), the
    track chunks -/
inductive EncFile (cs : Charset) : LFile → List Nat → Prop
  | mk (f : LFile) (t1 t2 n1 n2 d1 d2 : Nat) (extra chunks : List Nat)
      (ht : Enc16 f.type t1 t2) (hn : Enc16 (f.tracks.length : Int) n1 n2) (hd : Enc16 f.tpb d1 d2)
      (hx : 6 + extra.length < 4294967296)
      (hc : EncTracks cs f.tracks chunks) :
      EncFile cs f (mthd ++ u32be (6 + extra.length) ++ [t1, t2, n1, n2, d1, d2] ++ extra ++ chunks)

end Mido
