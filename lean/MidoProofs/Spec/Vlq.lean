/-! The variable-length quantity of the Standard MIDI File format as a relation between bytes and numbers
    (specification level: no reader or writer function is mentioned; see `Spec/SmfEnc.lean`). -/
namespace Mido

/-- a byte string denotes the number `n` as a variable-length quantity, with any amount of
    (legal) padding: continuation bytes ≥ 0x80, one final byte < 0x80.  `acc` is the value of the digits
    already read: a whole quantity is `VlqDenotes d 0 n` -/
inductive VlqDenotes : List Nat → Nat → Nat → Prop
  | last (acc b : Nat) (h : b < 128) : VlqDenotes [b] acc (acc * 128 + b)
  | cont (acc b : Nat) (rest : List Nat) (n : Nat) (h1 : 128 ≤ b) (h2 : b < 256)
      (h : VlqDenotes rest (acc * 128 + b % 128) n) : VlqDenotes (b :: rest) acc n

end Mido
