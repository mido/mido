import MidoModel.Codec
import MidoModel.Meta
/-! Vocabulary that the property statements and the SMF specification share and that is not part of the model
    (declarations only). -/
namespace Mido

/-- real-time message: status byte ≥ 0xF8 -/
def Msg.isRealtime (m : Msg) : Bool := decide (0xF8 ≤ m.status)

/-- values in the image of the decoder (what a constructed message holds after normalisation):
    the frame rate is one of the four table values, `data` is a tuple.  The extra condition
    `hours < 32` is the known finding F5 (the wire format has five bits for the hours while
    the documentation promises 0..255): the round trip is proved outside it only. -/
def MetaMsg.normal (m : MetaMsg) : Bool :=
  match m.ty, m.vals with
  | .smpte_offset, [fr, .int h, _, _, _, _] =>
      (fr == .int 24 || fr == .int 25 || fr == .flt 2997 || fr == .int 30) && decide (h < 32)
  | .smpte_offset, _ => false
  | .sequencer_specific, [.tuple _] => true
  | .sequencer_specific, _ => false
  | _, _ => true

end Mido
